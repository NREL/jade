import JadeModel.Proofs.BatchBlocked
import JadeModel.Model.Cluster

/-!
# C07 — every batch respects its group's size/time limit and holds only its group's jobs

Component theorems about `Model/Batch.lean` (`_submit_batches` / `_make_batch` / `_BatchJobs`), for
**all** candidate lists (order, estimates, remaining blockers), all group parameter sets, all queue
depths, all `sbatch` outcome sequences.  `cands` is the list of NOT_SUBMITTED jobs *of the group the
call is made for* (the group filter of `_get_available_jobs[_by_time]`), so "holds only its group's
jobs" is `∀ c ∈ b.jobs, c ∈ cands`.  The group's HPC parameters / run options on the scripts are
C18's script theorems plus the `batch` correspondence suite (which compares the real files).
-/

namespace Jade.C07
open Jade.Batch Jade.Gen.Batch

variable (p : Params) (depth : Nat) (dryRun : Bool) (out : Nat) (cands : List Cand) (env : List Bool)

/-- Every batch handed to the HPC: non-empty, distinct jobs, all from the group's candidates,
    within the size or time limit, blocked jobs only together with all their unfinished blockers. -/
theorem C07_batches_wellformed (hnd : (cands.map (·.id)).Nodup) :
    ∀ b ∈ (submitBatches p depth dryRun out cands env).batches,
      b.jobs ≠ [] ∧
      (∀ c ∈ b.jobs, c ∈ cands) ∧
      (p.timeBased = false → b.jobs.length ≤ max 1 p.batchSize) ∧
      (p.timeBased = true → (b.jobs.map (fun c => 60 * c.est)).sum ≤ p.maxTime) ∧
      (∀ c ∈ b.jobs, c.blockedBy ≠ [] →
        p.tryAdd = true ∧ ∀ x ∈ c.blockedBy, x ∈ b.jobs.map (·.id)) := by
  intro b hb
  obtain ⟨⟨hne, -, hsz, htm, hblk⟩, hsub⟩ := (submitBatches_spec p depth dryRun out cands env hnd).1 b hb
  exact ⟨hne, hsub, hsz, htm, fun c hc hnb => (hblk c hc).resolve_left hnb⟩

/-- at most per-node-batch-size jobs (size ≥ 1; the degenerate size 0 yields single-job batches) -/
theorem C07_batch_size_le (hnd : (cands.map (·.id)).Nodup) (htb : p.timeBased = false)
    (hbs : 1 ≤ p.batchSize) :
    ∀ b ∈ (submitBatches p depth dryRun out cands env).batches, b.jobs.length ≤ p.batchSize := by
  intro b hb
  have := (C07_batches_wellformed p depth dryRun out cands env hnd b hb).2.2.1 htb
  omega

/-- time-based: estimated minutes sum to at most walltime × processes-per-node -/
theorem C07_batch_time_le (hnd : (cands.map (·.id)).Nodup) (htb : p.timeBased = true)
    (wallSec procs : Nat) (hmax : p.maxTime = maxBatchTime wallSec procs) :
    ∀ b ∈ (submitBatches p depth dryRun out cands env).batches,
      (b.jobs.map (fun c => 60 * c.est)).sum ≤ wallSec * procs := by
  intro b hb
  have := (C07_batches_wellformed p depth dryRun out cands env hnd b hb).2.2.2.1 htb
  rw [hmax] at this
  simpa [maxBatchTime] using this

/-- a job with unfinished blockers is never batched when try-add-blocked is off -/
theorem C07_no_blocked_without_tryadd (hnd : (cands.map (·.id)).Nodup) (ht : p.tryAdd = false) :
    ∀ b ∈ (submitBatches p depth dryRun out cands env).batches, ∀ c ∈ b.jobs, c.blockedBy = [] := by
  intro b hb c hc
  by_cases h : c.blockedBy = []
  · exact h
  · have := ((C07_batches_wellformed p depth dryRun out cands env hnd b hb).2.2.2.2 c hc h).1
    rw [ht] at this; cases this

/-- no job is placed into two batches of one call (also the component core of C01) -/
theorem C07_batches_disjoint (hnd : (cands.map (·.id)).Nodup) :
    ((allJobs (submitBatches p depth dryRun out cands env).batches).map (·.id)).Nodup :=
  (submitBatches_spec p depth dryRun out cands env hnd).2

/-- dry-run: the same batches as a run in which every `sbatch` succeeds, and no `sbatch`
    outcome is consumed (nothing is handed to the HPC) -/
theorem C07_dryRun_same_batches (env' : List Bool) (htrue : ∀ e ∈ env', e = true)
    (hlen : cands.length + 1 ≤ env'.length) :
    (submitBatches p depth true out cands env).batches.map (·.jobs) =
      (submitBatches p depth false out cands env').batches.map (·.jobs) ∧
    (submitBatches p depth true out cands env).env = env :=
  submitLoop_dryRun p depth _ out _ env env' [] [] [] htrue
    (by rw [(candOrder_perm p cands).length_eq]; exact hlen) rfl

/-- with validated estimates (`check_job_runtimes`: every estimate ≤ walltime ≤ walltime × procs)
    the `while` loop of `_submit_batches` terminates -/
theorem C07_fuel_suffices (hfit : ∀ c ∈ cands, p.timeBased = true → 60 * c.est ≤ p.maxTime) :
    (submitBatches p depth dryRun out cands env).diverged = false :=
  submitLoop_terminates p depth dryRun _ out _ env [] []
    (fun c hc => hfit c ((candOrder_perm p cands).mem_iff.1 hc)) (Nat.lt_succ_self _)

/-- …and without that validation it need not: a candidate that does not fit an empty batch is
    handed back as "not checked" forever (DESIGN 9.9; excluded by `run_checks`). -/
theorem C07_unvalidated_estimate_diverges :
    (submitBatches { batchSize := 1, timeBased := true, tryAdd := false, maxTime := 60 } 5 false 0
      [{ id := 0, blockedBy := [], est := 2 }] [true, true]).diverged = true := by decide

theorem not_mem_ids {c : Cand} {l : List Cand} (h : ∀ d ∈ l, c.id ≠ d.id) : c.id ∉ l.map (·.id) :=
  fun hmem => let ⟨d, hd, hid⟩ := List.mem_map.1 hmem; h d hd hid.symm

/-- **The round's two hand-overs never share a job — any batching mode** (size-based or time-based): a job
    `_submit_batches` reports as blocked is in none of the batches of that call — `Cluster._update_job_status`, which marks
    the batched jobs SUBMITTED and then asserts that every blocked job is still NOT_SUBMITTED, therefore accepts the round's
    output.  (`Proofs/BatchBlocked.lean`: a job above the cursor in the blocked dictionary has all its blockers in the batch
    just made, and a candidate with a blocker in an earlier batch of the round is never placed.) -/
theorem C07_blocked_not_submitted (hnd : (cands.map (·.id)).Nodup) :
    ∀ c ∈ (submitBatches p depth dryRun out cands env).blocked,
      c.id ∉ (allJobs (submitBatches p depth dryRun out cands env).batches).map (·.id) :=
  fun c hc => not_mem_ids (submitBatches_blocked_disjoint_all p depth dryRun out cands env hnd c hc)

/-- The size-based case (the default) of `C07_blocked_not_submitted`.  There the cursor argument alone suffices; with
    time-based batching the cursor can roll back over a job in the blocked dictionary
    (`C07_rollback_hands_blocked_job_on`). -/
theorem C07_blocked_not_submitted_partial (hnd : (cands.map (·.id)).Nodup) (htb : p.timeBased = false) :
    ∀ c ∈ (submitBatches p depth dryRun out cands env).blocked,
      c.id ∉ (allJobs (submitBatches p depth dryRun out cands env).batches).map (·.id) :=
  fun c hc => not_mem_ids (submitBatches_blocked_disjoint p depth dryRun out cands env hnd htb c hc)

theorem feeds_status_update {a : Jade.Cluster.UpdateArgs} {sub : List JobId} {blk : List Cand}
    (hsub : a.submitted = sub) (hblk : a.blocked.map (·.1) = blk.map (·.id)) (hnd : sub.Nodup)
    (h : ∀ c ∈ blk, c.id ∉ sub) : a.submitted.Nodup ∧ ∀ b ∈ a.blocked, b.1 ∉ a.submitted := by
  refine ⟨hsub ▸ hnd, fun b hb => ?_⟩
  have hmem : b.1 ∈ blk.map (·.id) := hblk ▸ List.mem_map.2 ⟨b, hb, rfl⟩
  obtain ⟨c, hc, hid⟩ := List.mem_map.1 hmem
  rw [hsub, ← hid]
  exact h c hc

/-- **Two cooperating sites.** Whatever arguments `HpcSubmitter.run` builds for `Cluster.update_job_status` from one
    `_submit_batches` call — `submitted` = the batched jobs, `blocked` = the reported blocked jobs with whatever blocker
    sets — satisfy the two hypotheses of the status update's acceptance theorem that concern the submit phase
    (`UpdateArgsOK.subNodup` and the first clause of `UpdateArgsOK.blk`, `Proofs/ClusterStatus.lean`: under them and the
    state hypotheses `update_job_status` raises nothing, C09's `update_preserves`), whatever the batching mode. -/
theorem C07_round_feeds_status_update (hnd : (cands.map (·.id)).Nodup) (a : Jade.Cluster.UpdateArgs)
    (hsub : a.submitted = (allJobs (submitBatches p depth dryRun out cands env).batches).map (·.id))
    (hblk : a.blocked.map (·.1) = (submitBatches p depth dryRun out cands env).blocked.map (·.id)) :
    a.submitted.Nodup ∧ ∀ b ∈ a.blocked, b.1 ∉ a.submitted :=
  feeds_status_update hsub hblk (C07_batches_disjoint p depth dryRun out cands env hnd)
    (C07_blocked_not_submitted p depth dryRun out cands env hnd)

/-- The size-based case of `C07_round_feeds_status_update`. -/
theorem C07_round_feeds_status_update_partial (hnd : (cands.map (·.id)).Nodup) (htb : p.timeBased = false)
    (a : Jade.Cluster.UpdateArgs)
    (hsub : a.submitted = (allJobs (submitBatches p depth dryRun out cands env).batches).map (·.id))
    (hblk : a.blocked.map (·.1) = (submitBatches p depth dryRun out cands env).blocked.map (·.id)) :
    a.submitted.Nodup ∧ ∀ b ∈ a.blocked, b.1 ∉ a.submitted :=
  feeds_status_update hsub hblk (C07_batches_disjoint p depth dryRun out cands env hnd)
    (C07_blocked_not_submitted_partial p depth dryRun out cands env hnd htb)

/-- `_make_batch` under ANY batching mode: a job reported as blocked has blockers, and either was looked at for good (index
    at or below the cursor) or has all its blockers in the batch just made (the roll-back case) — first step of the full
    statement, see DESIGN 0.9 -/
theorem C07_blocked_looked_at_or_doomed : type_of% @Jade.Batch.makeBatch_blocked_looked_at_or_doomed :=
  @Jade.Batch.makeBatch_blocked_looked_at_or_doomed

theorem C07_rollback_hands_blocked_job_on : type_of% @Jade.Batch.rollback_hands_blocked_job_on :=
  @Jade.Batch.rollback_hands_blocked_job_on

/-- the time-based round of that witness: job 2 is reported blocked (twice) and is in no batch -/
example : let r := (submitBatches { batchSize := 500, timeBased := true, tryAdd := true, maxTime := 1500 } 9 false 0
      [⟨0, [1], 10⟩, ⟨1, [], 10⟩, ⟨2, [0], 90⟩] [true, true, true])
    r.batches.map (·.jobs.map (·.id)) = [[1, 0]] ∧ r.blocked.map (·.id) = [2, 2] := by decide

/-- non-vacuity of `C07_blocked_not_submitted_partial`: a size-based round with a non-empty blocked list -/
example : let r := (submitBatches { batchSize := 2, timeBased := false, tryAdd := true, maxTime := 0 } 3 false 0
      [⟨0, [3], 5⟩, ⟨1, [], 5⟩, ⟨2, [], 5⟩, ⟨3, [], 5⟩] [true, true, true])
    r.batches.map (·.jobs.map (·.id)) = [[1, 2], [3]] ∧ r.blocked.map (·.id) = [0] := by decide

/-! ## Non-vacuity -/

example : (submitBatches { batchSize := 2, timeBased := false, tryAdd := true, maxTime := 0 } 3 false 0
    [⟨0, [], 5⟩, ⟨1, [], 5⟩, ⟨2, [0], 5⟩, ⟨3, [], 5⟩] [true, false, true]).batches.map (·.jobs.map (·.id))
    = [[0, 1], [3]] := by decide

example : (submitBatches { batchSize := 3, timeBased := false, tryAdd := true, maxTime := 0 } 3 false 0
    [⟨0, [1], 5⟩, ⟨1, [], 5⟩, ⟨2, [], 5⟩, ⟨3, [9], 5⟩] [true, true]).batches.map (·.jobs.map (·.id))
    = [[1, 2, 0]] := by decide

example : (submitBatches { batchSize := 500, timeBased := true, tryAdd := true, maxTime := 6000 } 9 false 0
    [⟨0, [1], 10⟩, ⟨1, [], 10⟩, ⟨2, [], 90⟩] [true, true, true]).batches.map (·.jobs.map (·.id))
    = [[1, 2]] := by decide

end Jade.C07
