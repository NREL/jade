import JadeModel.Proofs.SystemProgress
import JadeModel.Proofs.SystemGate
import JadeModel.Proofs.SystemOutcome
import JadeModel.Props.C07
import JadeModel.Props.C01

/-!
# C05 — a submission makes progress and completes exactly once

System level (`Jade.Sys`, every scenario, every op sequence):

* `C05_quiescent_round_progress`: take any reachable moment `s0` at which nobody holds the submitter role
  and every batch recorded in the status file has ended (the situation the documented recovery
  `try-submit-jobs` is for).  Whatever happens afterwards, a submitter round that reaches the end of its
  submit phase either decides "complete" or leaves the HPC with a batch id that did not exist at `s0`
  — i.e. at least one new batch was handed over.  A refused promotion changes nothing
  (`C05_refused_promotion_is_noop`), so the race "last node refused because another node was still
  submitter" only postpones the round.
* `C05_batches_bounded`: at most `n` batches are ever created (each is non-empty and no job is ever in two
  batches, C01) — so only finitely many rounds can end without completing.
* completion happens once (`C05_complete_once`), the summary is written before the flag by the same
  process (`C05_summary_before_flag`), no batch is handed over afterwards (`C05_no_sbatch_after_complete`).
* the decision (`C05_decision`): complete iff every job is done, or no batch is believed active.

Component level: the submit loop leaves a candidate without blockers unbatched only when the node limit
is reached (`C05_round_leaves_unblocked_only_when_full` = C07's `submitLoop_unblocked`).

PARTIAL: "the completion flag is set only when every job has a result" is proved here for the all-done
branch of the decision; that a fault-free run never takes the forced branch (`ids = []`) with an unfinished
job is `C05_flag_only_when_all_rows` (`Props/C03Live.lean`, over `runP`; re-exported by `Props/C05All.lean`); that each round terminates is decided by
the direct oracle on real executions and by C07's termination theorem for the submit loop.
-/

namespace Jade.C05
open Jade.Sys

/-- **Round progress.** -/
theorem C05_quiescent_round_progress (sc : Scn) (ops0 : List Op) (s0 : Sys) (h0 : run (init sc) ops0 = some s0)
    (hrole : s0.submitter = none) (hq : ∀ h ∈ s0.disk.ids, s0.slurm h = some .ended)
    (ops : List Op) (t t' : Sys) (ht : run s0 ops = some t) (p : Pid) (hu : step t (.unmark p) = some t') :
    (∃ x', getSub t' p = some x' ∧ x'.pc = .unmarked ∧ x'.decided = true) ∨
    (∃ h, s0.slurm h = none ∧ t.slurm h ≠ none) := by
  have hr0 : RoleInv s0 := (batchInv_run ops0 (batchInv_init sc) h0).role
  have hq0 : ProgQ (fun h => s0.slurm h = some .ended) (fun h => s0.slurm h = none) s0 := by
    refine ⟨fun h hd => hd, fun h hn => hn, fun h hh => Or.inl (hq h hh), ?_, ?_⟩
    · intro q a y hp hh
      have := hr0.holder q a y hp hh
      rw [hrole] at this; cases this
    · intro q a y hp hh
      have hh' : holds y.pc = true := by revert hh; cases y.pc <;> simp [polled, holds]
      have := hr0.holder q a y hp hh'
      rw [hrole] at this; cases this
  have hqt := progQ_run ops hq0 ht
  have hat := progA_run ops (progA_run ops0 (progA_init sc) h0) ht
  cases step_sound hu with
  | unmark hp hg =>
    rename_i x
    by_cases hout : x.out = []
    · left
      refine ⟨{ x with pc := .unmarked, hasMarker := false, decided := isCompleteDecision t.sc.n x.loc },
        by simp [getSub, setSub, setProc], rfl, ?_⟩
      have : x.loc.ids = [] := by rw [hat.persistedIds p true x hp hg.1]; exact hout
      simp [isCompleteDecision, this]
    · right
      obtain ⟨h, hh⟩ := List.exists_mem_of_ne_nil _ hout
      refine ⟨h, ?_, hat.outIds p true x hp h hh⟩
      rcases hqt.outOld p true x hp (by rw [hg.1]; rfl) h hh with hd | hn
      · exact absurd hd (hqt.outLive p true x hp (by rw [hg.1]; rfl) h hh)
      · exact hn

/-- a refused promotion (somebody else is submitter) leaves all shared state untouched -/
theorem C05_refused_promotion_is_noop (s s' : Sys) (p q : Pid) (hs : s.submitter = some q)
    (h : step s (.promote p) = some s') :
    s'.disk = s.disk ∧ s'.submitter = s.submitter ∧ s'.marker = s.marker ∧ s'.batches = s.batches ∧
    s'.processed = s.processed ∧ s'.nodeFile = s.nodeFile ∧ s'.slurm = s.slurm := by
  cases step_sound h with
  | promoteRefused => simp [setSub, setProc]
  | promoteDone _ _ hn | promote _ _ hn => simp [hs] at hn

/-- the number of batches ever created is bounded by the number of jobs -/
theorem C05_batches_bounded (sc : Scn) (ops : List Op) (s : Sys) (h : run (init sc) ops = some s) :
    s.batches.length ≤ sc.n := by
  have hb := batchInv_run ops (batchInv_init sc) h
  have ha := progA_run ops (progA_init sc) h
  have hsc : s.sc = sc := by rw [sc_run ops h]; rfl
  have h1 : s.batches.length ≤ (s.batches.flatMap (·.jobs)).length := by
    have : ∀ (l : List Batch), (∀ B ∈ l, B.jobs ≠ []) → l.length ≤ (l.flatMap (·.jobs)).length := by
      intro l
      induction l with
      | nil => intro _; simp
      | cons B l ih =>
        intro hne
        have hB : B.jobs ≠ [] := hne B (by simp)
        have hpos : 0 < B.jobs.length := List.length_pos_iff.mpr hB
        have := ih (fun B' hB' => hne B' (by simp [hB']))
        simp only [List.flatMap_cons, List.length_append, List.length_cons]
        omega
    exact this _ (fun B hB => (ha.batchJobs B hB).1)
  have h2 : (s.batches.flatMap (·.jobs)).length ≤ sc.n := by
    have hsub : ∀ j ∈ s.batches.flatMap (·.jobs), j ∈ List.range sc.n := by
      intro j hj
      simp only [List.mem_flatMap] at hj
      obtain ⟨B, hB, hjB⟩ := hj
      have := (ha.batchJobs B hB).2 j hjB
      rw [hsc] at this
      simpa using this
    have := hb.jobsNodup.length_le_of_subset hsub
    simpa using this
  omega

/-- the flag is set at most once: `completions` is 0 or 1, and 1 exactly when the flag is on disk -/
theorem C05_complete_once (sc : Scn) (ops : List Op) (s : Sys) (h : run (init sc) ops = some s) :
    s.completions = (if s.disk.complete then 1 else 0) :=
  (gateInv_run ops (gateInv_init sc) h).once

/-- once complete, `mark_complete` is refused -/
theorem C05_no_second_completion (s : Sys) (p : Pid) (hc : s.disk.complete = true) : step s (.flag p) = none :=
  step_eq_none fun s' h => by cases h with | flag hp hg => simp [hc] at hg

/-- no batch is ever handed to the HPC after the completion flag (or the cancel flag) is on disk -/
theorem C05_no_sbatch_after_complete (sc : Scn) (ops : List Op) (s : Sys) (h : run (init sc) ops = some s) :
    s.lateSbatch = false :=
  (gateInv_run ops (gateInv_init sc) h).late

/-- who is about to set the flag has written the summary: in every history the `flag p` event is
    preceded by `summary p` -/
theorem C05_summary_before_flag (sc : Scn) (ops : List Op) (s s' : Sys) (p : Pid)
    (h : run (init sc) ops = some s) (hf : step s (.flag p) = some s') : Op.summary p ∈ ops := by
  have key : ∀ (ops : List Op) (pre : List Op) (s0 s : Sys),
      (∀ q a y, s0.procs q = .sub a y → y.pc = .summarized → Op.summary q ∈ pre) →
      run s0 ops = some s → (∀ q a y, s.procs q = .sub a y → y.pc = .summarized → Op.summary q ∈ pre ++ ops) := by
    intro ops
    induction ops with
    | nil => intro pre s0 s h0 hr; simp [run] at hr; subst hr; simpa using h0
    | cons op ops ih =>
      intro pre s0 s h0 hr
      simp only [run] at hr
      split at hr
      · next s1 hs =>
        have := ih (pre ++ [op]) s1 s ?_ hr
        · simpa using this
        · intro q a y hq hpc
          have hstep := summarized_step (step_sound hs) hq hpc
          rcases hstep with ⟨a', y', hq', hpc'⟩ | rfl
          · simp [h0 q a' y' hq' hpc']
          · simp
      · cases hr
  obtain ⟨x, hp, hpc⟩ : ∃ x, s.procs p = .sub true x ∧ x.pc = .summarized := by
    cases step_sound hf with | flag hp hg => exact ⟨_, hp, hg.1⟩
  have := key ops [] (init sc) s (by intro q a y hq; simp [init] at hq) h p true x hp hpc
  simpa using this

/-- the decision taken when the marker is removed -/
theorem C05_decision (s s' : Sys) (p : Pid) (x : SubP) (hx : getSub s p = some x) (h : step s (.unmark p) = some s') :
    ∃ x', getSub s' p = some x' ∧
      (x'.decided = true ↔ ((∀ j, j < s.sc.n → x.loc.st j = .done) ∨ x.loc.ids = [])) := by
  cases step_sound h with
  | unmark hp hg =>
    rw [getSub_eq hx] at hp; cases hp
    exact ⟨{ x with pc := .unmarked, hasMarker := false, decided := isCompleteDecision s.sc.n x.loc },
      by simp [getSub, setSub, setProc], by simp [isCompleteDecision]⟩

/-- component: the submit loop leaves an unblocked candidate unbatched only when the node limit is reached -/
theorem C05_round_leaves_unblocked_only_when_full : type_of% @Jade.Batch.submitLoop_unblocked := @Jade.Batch.submitLoop_unblocked

/-- component: the submit loop terminates -/
theorem C05_submit_loop_terminates : type_of% @Jade.Batch.submitLoop_terminates := @Jade.Batch.submitLoop_terminates

/-! ## Non-vacuity: quiescent moment after batch 1 ended; the next round hands over batch 2; the round
    after that completes, writes the summary and sets the flag -/

def demoOps : List Op :=
  Jade.C01.demoOps.take 10 ++
  [.startBatch 100 2 2, .nodeStart 2 0, .nodeStart 2 1, .nodeRow 2 0, .nodeRow 2 1, .nodeEnd 2]

example : ((run (init Jade.C01.demoScn) demoOps).map fun s => (s.submitter, s.disk.ids, s.slurm 100, s.disk.complete))
    = some (none, [100], some .ended, false) := by decide

def round2 : List Op :=
  [.spawnSub 3 false, .promote 3, .poll 3 [100], .collectFile 3 1, .passEnd 3 [], .collectDone 3, .mark 3,
   .sbatch 3 [2] (some 101), .persist 3, .unmark 3]

example : ((run (init Jade.C01.demoScn) (demoOps ++ round2)).map fun s =>
    ((getSub s 3).map (·.decided), s.slurm 101, s.batches.length)) = some (some false, some .pending, 2) := by decide

def round3 : List Op :=
  [.demote 3, .exit 3, .startBatch 101 4 1, .nodeStart 4 2, .nodeRow 4 2, .nodeEnd 4,
   .spawnSub 5 false, .promote 5, .poll 5 [101], .collectFile 5 2, .passEnd 5 [], .collectDone 5, .mark 5,
   .persist 5, .unmark 5, .summary 5, .flag 5, .demote 5]

example : ((run (init Jade.C01.demoScn) (demoOps ++ round2 ++ round3)).map fun s =>
    (s.disk.complete, s.completions, s.processed.map (·.job), s.lateSbatch)) = some (true, 1, [0, 1, 2], false) := by decide

end Jade.C05
