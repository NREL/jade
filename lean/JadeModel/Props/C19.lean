import JadeModel.Proofs.Command
import JadeModel.Props.Replica

/-!
# C19 — jobs are launched exactly as configured and their real exit status is recorded

Property theorems only.  `shSplit` is the model of `shlex.split(·, posix=True)`; the posix flag,
the suffix templates and guards of `generate_command`, the environment variable names, the
stdout/stderr file templates and the arguments of `Result(…)` in `_complete`/`cancel` come from
`Jade.Gen.Command`, regenerated from the working tree on every run.

All statements are for arbitrary (unbounded) commands, names, paths and integer exit codes.
-/

namespace Jade.C19
open Jade.Command Jade.Gen.Command

/-! ## Vocabulary -/

/-- characters of a legal job name: `[A-Za-z0-9_.-]` -/
def legalNameChar (c : Char) : Bool := c.isAlphanum || c == '_' || c == '.' || c == '-'

/-- legal job name: non-empty, characters from `[A-Za-z0-9_.-]` -/
def legalName (s : String) : Bool := !s.toList.isEmpty && s.toList.all legalNameChar

/-- benign output directory: characters from `[A-Za-z0-9_.-]` and `/`, non-empty, no trailing slash -/
def benignDir (s : String) : Bool :=
  s.toList.all (fun c => legalNameChar c || c == '/') && noTrailingSlash s.toList

/-! ## 0. The code asks for POSIX mode on the platform the jobs run on -/

theorem posix_on_linux : posixArg "linux" = true := by decide

/-! ## 1. `shlex.split` — word splitting -/

/-- the only way splitting fails is `ValueError` (unterminated quote / dangling backslash) -/
theorem split_error_kind (s : List Char) (e : Err) (h : shSplit s = .error e) : e = .valueError :=
  finish_error _ e h

/-- **Compositional law.** Two complete commands separated by one whitespace character split into
    the words of the first followed by the words of the second. -/
theorem split_concat (a b : List Char) (xs ys : List (List Char)) (c : Char)
    (ha : shSplit a = .ok xs) (hb : shSplit b = .ok ys) (hc : isShWs c = true) :
    shSplit (a ++ c :: b) = .ok (xs ++ ys) := by
  unfold shSplit at hb ⊢
  rw [run_append, run_cons, run_then_ws a xs c ha hc, run_addOut, finish_addOut, hb]
  rfl

/-- leading and trailing whitespace (any mix of space, tab, CR, LF) does not change the words -/
theorem split_pad (pre a post : List Char) (xs : List (List Char)) (ha : shSplit a = .ok xs)
    (hpre : ∀ c ∈ pre, isShWs c = true) (hpost : ∀ c ∈ post, isShWs c = true) :
    shSplit (pre ++ a ++ post) = .ok xs := by
  obtain ⟨hm, -⟩ := (finish_ok_iff _ _).1 ha
  unfold shSplit at ha ⊢
  rw [run_append, run_append, run_ws_init pre hpre, finish_run_ws post _ hm hpost, ha]

/-- a safe word (non-empty, no whitespace/quote/backslash) is exactly one argument -/
theorem split_safe_word (t : List Char) (ht : safeWord t = true) : shSplit t = .ok [t] := by
  have hne : t ≠ [] := by
    intro h; simp [safeWord, h] at ht
  unfold shSplit
  rw [run_safe_space t Lex.init rfl ht]
  simp [Lex.finish, Lex.flush, Lex.init, hne]

/-- **Appended flag.** If the user's command splits into `ws`, then the command followed by a
    space and a safe flag text splits into `ws` followed by exactly that one extra argument:
    the user's argv is unchanged and the flag arrives intact. -/
theorem split_append (cmd t : List Char) (ws : List (List Char))
    (hcmd : shSplit cmd = .ok ws) (ht : safeWord t = true) :
    shSplit (cmd ++ ' ' :: t) = .ok (ws ++ [t]) :=
  split_concat cmd t ws [t] ' ' hcmd (split_safe_word t ht) (by decide)

/-- **List form of the compositional law**: pieces that split on their own, joined by single
    spaces, split into the concatenation of their words. -/
theorem split_concat_list {α : Type} (g : α → List Char) (t : α → List (List Char)) (xs : List α)
    (h : ∀ x ∈ xs, shSplit (g x) = .ok (t x)) :
    shSplit (joinSp (xs.map g)) = .ok (xs.flatMap t) := by
  induction xs with
  | nil => exact (by decide : shSplit [] = .ok [])
  | cons x rest ih =>
    rw [List.forall_mem_cons] at h
    cases rest with
    | nil => simpa [joinSp] using h.1
    | cons y rest => exact split_concat _ _ _ _ ' ' h.1 (ih h.2) (by decide)

/-- a command made of safe words joined by single spaces splits into exactly those words -/
theorem split_plain_words (ws : List (List Char)) (h : ∀ w ∈ ws, safeWord w = true) :
    shSplit (joinSp ws) = .ok ws := by
  simpa using split_concat_list id (fun w => [w]) ws fun w hw => split_safe_word w (h w hw)

/-- single quotes: any text without a single quote, wrapped in single quotes, is one argument
    carrying exactly that text (whitespace, `"`, `\`, `$`, `*`, `;`, `#` … all literal) -/
theorem split_quote_roundtrip (w : List Char) (hw : ∀ c ∈ w, c ≠ '\'') :
    shSplit ('\'' :: w ++ ['\'']) = .ok [w] :=
  shSplit_quoted '\'' rfl w w fun s hm => run_quote_body _ w s hm fun c hc => ⟨hw c hc, by simp [isEscapedQuote]⟩

/-- double quotes: any text without `"` and `\`, wrapped in double quotes, is one argument -/
theorem split_dquote_roundtrip (w : List Char) (hw : ∀ c ∈ w, c ≠ '"' ∧ c ≠ '\\') :
    shSplit ('"' :: w ++ ['"']) = .ok [w] :=
  shSplit_quoted '"' rfl w w fun s hm =>
    run_quote_body _ w s hm fun c hc => ⟨(hw c hc).1, by simp [isEscape, (hw c hc).2]⟩

/-- every text whatsoever can be passed as one argument: `shQuote` (single quotes, with each
    single quote written `'"'"'`) is inverted exactly -/
theorem split_quote_all (w : List Char) : shSplit (shQuote w) = .ok [w] :=
  shSplit_quoted '\'' rfl _ w (run_shQuote_body w)

/-- every argv is expressible and recovered exactly: quoting each intended argument and joining
    with spaces splits back into the intended arguments (including empty ones) -/
theorem split_quoted_words (ws : List (List Char)) :
    shSplit (joinSp (ws.map shQuote)) = .ok ws := by
  simpa using split_concat_list shQuote (fun w => [w]) ws fun w _ => split_quote_all w

/-- a command without quotes and backslashes always splits (no error) -/
theorem split_total_on_plain (cmd : List Char)
    (h : ∀ c ∈ cmd, isQuote c = false ∧ isEscape c = false) : ∃ ws, shSplit cmd = .ok ws :=
  ⟨_, (finish_ok_iff _ _).2
    ⟨List.foldlRecOn (motive := Lex.Open) cmd Lex.step (.inl rfl) fun s hs c hc => step_open s c hs (h c hc), rfl⟩⟩

/-- an unterminated single quote after a complete command: the job is not launched (`ValueError`) -/
theorem split_unterminated_squote (a w : List Char) (xs : List (List Char))
    (ha : shSplit a = .ok xs) (hw : ∀ c ∈ w, c ≠ '\'') :
    shSplit (a ++ '\'' :: w) = .error .valueError := by
  obtain ⟨hm, -⟩ := (finish_ok_iff _ _).1 ha
  have : (((Lex.init.run a).step '\'').run w).mode = .quote '\'' :=
    List.foldlRecOn (motive := fun s => s.mode = .quote '\'') w Lex.step (by rw [step_quote_open _ _ hm rfl])
      fun s hs c hc => by rw [step_quote_literal s _ c hs (hw c hc) (by simp [isEscapedQuote])]; exact hs
  rw [shSplit, run_append, run_cons, Lex.finish, this]

/-- a dangling backslash after a complete command: the job is not launched (`ValueError`) -/
theorem split_trailing_backslash (a : List Char) (xs : List (List Char)) (ha : shSplit a = .ok xs) :
    shSplit (a ++ ['\\']) = .error .valueError := by
  obtain ⟨hm, -⟩ := (finish_ok_iff _ _).1 ha
  unfold shSplit
  rw [run_append, run_cons, run_nil]
  rcases hm with hm | hm <;>
    simp [Lex.step, hm, Lex.stepSpace, Lex.stepWord, isShWs, isQuote, isEscape, Lex.finish]

/-! ## 2. `generate_command` — the documented flags, in all four combinations -/

theorem generateCommand_spec (j : Job) (output : String) :
    generateCommand j output =
      j.command
      ++ (if j.appendJobName then " --jade-job-name=" ++ j.name else "")
      ++ (if j.appendOutputDir then
            " --jade-runtime-output=" ++ String.ofList (dirname output.toList) else "") := by
  simp [generateCommand, cmdSuffixes, applySuffix_eq, cmdInit, cmdLocals, guardVal, genEnv, evalExpr,
    renderPieces, String.join]

/-- with `output = <outdir>/job-outputs` (what `_generate_jobs` passes) the directory flag carries
    the submission's output directory itself -/
theorem jobCommand_spec (j : Job) (out : String) (hout : noTrailingSlash out.toList = true) :
    jobCommand j out =
      j.command
      ++ (if j.appendJobName then " --jade-job-name=" ++ j.name else "")
      ++ (if j.appendOutputDir then " --jade-runtime-output=" ++ out else "") := by
  have hd : dirname (pathJoin out.toList jobsOutputDir.toList) = out.toList :=
    dirname_join _ _ hout (by decide)
  rw [jobCommand, generateCommand_spec, String.toList_ofList, hd, String.ofList_toList]

/-! ## 3. The flags are single safe words -/

/-- none of the seven characters special to the lexer is a name character or a slash -/
theorem legalNameChar_plain (c : Char) (h : (legalNameChar c || c == '/') = true) : isPlain c = true := by
  cases hp : isPlain c with
  | true => rfl
  | false =>
    simp only [isPlain, isShWs, isQuote, isEscape, Bool.not_eq_false', Bool.or_eq_true, beq_iff_eq] at hp
    rcases hp with ((((rfl | rfl) | rfl) | rfl) | rfl | rfl) | rfl <;> exact absurd h (by decide)

theorem nameFlag_safe (name : String) (h : legalName name = true) :
    safeWord ("--jade-job-name=".toList ++ name.toList) = true := by
  simp only [legalName, Bool.and_eq_true, List.all_eq_true] at h
  exact safeWord_append _ _ (by decide +kernel) (fun c hc => legalNameChar_plain c (by simp [h.2 c hc]))

theorem outputFlag_safe (out : String) (h : benignDir out = true) :
    safeWord ("--jade-runtime-output=".toList ++ out.toList) = true := by
  simp only [benignDir, Bool.and_eq_true, List.all_eq_true] at h
  exact safeWord_append _ _ (by decide +kernel) (fun c hc => legalNameChar_plain c (h.1 c hc))

/-! ## 4. The launch, end to end -/

/-- the documented extra arguments, in order -/
def flagArgs (j : Job) (out : String) : List String :=
  (if j.appendJobName then ["--jade-job-name=" ++ j.name] else [])
  ++ (if j.appendOutputDir then ["--jade-runtime-output=" ++ out] else [])

theorem split_jobCommand (j : Job) (out : String) (ws : List (List Char))
    (hname : legalName j.name = true) (hout : benignDir out = true)
    (hcmd : shSplit j.command.toList = .ok ws) :
    shSplit (jobCommand j out).toList = .ok (ws ++ (flagArgs j out).map String.toList) := by
  have hts : noTrailingSlash out.toList = true := by
    simp only [benignDir, Bool.and_eq_true] at hout; exact hout.2
  have hn := split_append _ _ _ hcmd (nameFlag_safe j.name hname)
  have ho := fun cmd ws h => split_append cmd _ ws h (outputFlag_safe out hout)
  have e1 : " --jade-job-name=".toList = ' ' :: "--jade-job-name=".toList := by decide +kernel
  have e2 : " --jade-runtime-output=".toList = ' ' :: "--jade-runtime-output=".toList := by decide +kernel
  rw [jobCommand_spec j out hts]
  cases ha : j.appendJobName <;> cases hb : j.appendOutputDir <;>
    simp only [flagArgs, ha, hb, if_true, if_false, Bool.false_eq_true, String.toList_append, e1, e2,
      List.map_nil, List.map_cons, List.append_nil, List.nil_append, List.append_assoc,
      List.cons_append, String.append_empty]
  · simpa using hcmd
  · exact ho _ _ hcmd
  · exact hn
  · simpa [List.append_assoc] using ho _ _ hn

theorem launch_eq (platform : String) (hp : posixArg platform = true) (j : Job) (out : String)
    (hpc : Option String) (batch : Nat) (mgr : Bool) (rc : Int) (ws : List (List Char))
    (hname : legalName j.name = true) (hout : benignDir out = true)
    (hcmd : shSplit j.command.toList = .ok ws) :
    launch platform (jobCtx j out hpc batch mgr rc) = .ok {
      argv := ws.map String.ofList ++ flagArgs j out
      env := [("JADE_RUNTIME_OUTPUT", out), ("JADE_JOB_NAME", j.name)]
      inheritsEnv := true
      stdout := out ++ "/job-stdio/" ++ j.name ++ ".o"
      stderr := out ++ "/job-stdio/" ++ j.name ++ ".e" } := by
  simp [launch, runSplit, hp, splitInput, jobCtx, split_jobCommand j out ws hname hout hcmd, envAssigns,
    envInherits, stdoutPath, stderrPath, stdio_path, Function.comp_def]

/-- **Launch.** For every command that splits into `ws`, every legal job name, every benign
    output directory and every combination of the `append_*` flags, the process is started with
    argv = the user's words followed by exactly the requested documented flags, with
    `JADE_RUNTIME_OUTPUT` = the output directory and `JADE_JOB_NAME` = the job's name set (and
    nothing else) on top of the inherited environment, and with its own stdout/stderr files
    `<out>/job-stdio/<name>.o|.e`. -/
theorem launch_spec (j : Job) (out : String) (hpc : Option String) (batch : Nat) (mgr : Bool) (rc : Int)
    (ws : List (List Char))
    (hname : legalName j.name = true) (hout : benignDir out = true)
    (hcmd : shSplit j.command.toList = .ok ws) :
    ∃ l : Launch, launch "linux" (jobCtx j out hpc batch mgr rc) = .ok l ∧
      l.argv = ws.map String.ofList ++ flagArgs j out ∧
      l.envGet "JADE_RUNTIME_OUTPUT" = some out ∧
      l.envGet "JADE_JOB_NAME" = some j.name ∧
      (∀ k : String, (l.envGet k).isSome = true → k = "JADE_RUNTIME_OUTPUT" ∨ k = "JADE_JOB_NAME") ∧
      l.inheritsEnv = true ∧
      l.stdout = out ++ "/job-stdio/" ++ j.name ++ ".o" ∧
      l.stderr = out ++ "/job-stdio/" ++ j.name ++ ".e" := by
  refine ⟨_, launch_eq "linux" posix_on_linux j out hpc batch mgr rc ws hname hout hcmd,
    rfl, by simp [Launch.envGet, List.lookup], by simp [Launch.envGet], fun k => ?_, rfl, rfl, rfl⟩
  simp only [Launch.envGet, List.reverse_cons, List.reverse_nil, List.nil_append, List.cons_append,
    List.lookup]
  split
  · exact fun _ => .inr (by simp_all)
  · split
    · exact fun _ => .inl (by simp_all)
    · nofun

/-! ## 5. The recorded result -/

/-- **Completion.** When the process has ended, the manager node records exactly one row for the
    batch: the job's name, the process's return code unchanged (any integer: exit codes 0–255,
    negative signal numbers, …), status `finished`, and the node's HPC job id. -/
theorem complete_records (x : Ctx) (h : x.isManager = true) :
    completeRow x = some { name := x.jobName, returnCode := x.rc, status := "finished",
                           hpcJobId := x.hpcJobId, batch := x.batchId } := by
  simp [completeRow, completeRecords, completeName, completeReturnCode, completeStatus,
    completeHpcJobId, completeBatch, h]

/-- a non-manager node of a multi-node job records nothing (the manager node does) -/
theorem complete_nonmanager (x : Ctx) (h : x.isManager = false) : completeRow x = none := by
  simp [completeRow, completeRecords, h]

/-- the recorded code is zero exactly when the process's was -/
theorem complete_success_iff (x : Ctx) (r : Row) (h : completeRow x = some r) :
    r.returnCode = 0 ↔ x.rc = 0 := by
  cases hm : x.isManager with
  | false => rw [complete_nonmanager x hm] at h; cases h
  | true => rw [complete_records x hm] at h; cases h; rfl

/-- **Cancellation.** A canceled job is recorded with a non-zero return code (1), status
    `canceled`, under its own name and the node's HPC job id. -/
theorem cancel_records (x : Ctx) (h : x.isManager = true) :
    cancelRow x = some { name := x.jobName, returnCode := 1, status := "canceled",
                         hpcJobId := x.hpcJobId, batch := x.batchId } ∧
    (1 : Int) ≠ 0 := by
  refine ⟨?_, by decide⟩
  simp [cancelRow, cancelRecords, cancelName, cancelReturnCode, cancelStatus, cancelHpcJobId,
    cancelBatch, h]

/-- the job built by `_generate_jobs` records under the configured job's name, the node's batch
    and HPC job id, whatever its command and flags -/
theorem job_complete_records (j : Job) (out : String) (hpc : Option String) (batch : Nat) (rc : Int) :
    completeRow (jobCtx j out hpc batch true rc)
      = some { name := j.name, returnCode := rc, status := "finished", hpcJobId := hpc, batch := batch } :=
  complete_records _ rfl

/-! ## Non-vacuity: concrete instances -/

example : shSplit "python run.py --x=\"a b\" 'c d' e\\ f".toList
    = .ok ["python".toList, "run.py".toList, "--x=a b".toList, "c d".toList, "e f".toList] := by decide +kernel
example : shSplit "a\"\"".toList = .ok ["a".toList] := by decide +kernel
example : shSplit "''".toList = .ok [[]] := by decide +kernel
example : shSplit "\"a\"'b'".toList = .ok ["ab".toList] := by decide +kernel
example : shSplit "a\\\nb".toList = .ok ["a\nb".toList] := by decide +kernel
example : shSplit "\"a\\$b\\\\c\\\"d\"".toList = .ok ["a\\$b\\c\"d".toList] := by decide +kernel
example : shSplit "a #b é".toList = .ok ["a".toList, "#b".toList, "é".toList] := by decide +kernel
example : shSplit "'a".toList = .error .valueError := by decide +kernel
example : shSplit "a\\".toList = .error .valueError := by decide +kernel
example : shSplit "".toList = .ok [] := by decide +kernel
example : safeWord "--jade-job-name=job_1.a-b".toList = true := by decide +kernel
example : legalName "job_1.a-b" = true := by decide +kernel
example : legalName "a b" = false := by decide +kernel
example : benignDir "/scratch/u/run-1/out.d" = true := by decide +kernel
example : benignDir "out/" = false := by decide +kernel
example : shQuote "it's".toList = "'it'\"'\"'s'".toList := by decide +kernel
example : generateCommand ⟨"j1", "echo hi", true, true⟩ "/o/job-outputs"
    = "echo hi --jade-job-name=j1 --jade-runtime-output=/o" := by decide +kernel
example : (launch "linux" (jobCtx ⟨"j1", "echo 'a b'", true, false⟩ "/o" (some "77") 3 true 5)).map
      (fun l => (l.argv, l.envGet "JADE_JOB_NAME", l.envGet "JADE_RUNTIME_OUTPUT", l.envGet "PATH", l.stdout, l.stderr))
    = .ok (["echo", "a b", "--jade-job-name=j1"], some "j1", some "/o", none,
           "/o/job-stdio/j1.o", "/o/job-stdio/j1.e") := by decide +kernel
example : completeRow (jobCtx ⟨"j1", "false", false, false⟩ "/o" (some "77") 3 true 255)
    = some { name := "j1", returnCode := 255, status := "finished", hpcJobId := some "77", batch := 3 } := by
  decide +kernel
example : cancelRow (jobCtx ⟨"j1", "false", false, false⟩ "/o" none 3 true 0)
    = some { name := "j1", returnCode := 1, status := "canceled", hpcJobId := none, batch := 3 } := by decide +kernel

/-! multi-node allocations: exactly node 0 is the manager node, it records every result of its queue, the other
nodes record none (from the generated `am_i_manager`, `_complete` and `cancel` guards) -/
theorem C19_manager_is_node_zero : type_of% @Jade.Replica.manager_iff := @Jade.Replica.manager_iff
theorem C19_worker_records_nothing : type_of% @Jade.Replica.worker_records_nothing := @Jade.Replica.worker_records_nothing
theorem C19_manager_records_all : type_of% @Jade.Replica.manager_records_all := @Jade.Replica.manager_records_all
theorem C19_runner_flag_is_am_i_manager : type_of% @Jade.Replica.runner_flag_is_am_i_manager := @Jade.Replica.runner_flag_is_am_i_manager

end Jade.C19
