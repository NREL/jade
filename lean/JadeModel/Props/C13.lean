import JadeModel.Proofs.Resubmit

/-!
# C13 — resubmission reruns exactly the selected jobs and their dependents

Theorems about `Model/Resubmit.lean` (`resubmit_jobs`, `_get_jobs_to_resubmit`, `_update_with_blocking_jobs`,
`clear_results_for_resubmission`, `Cluster.prepare_for_resubmission`), for **all** configurations (any number of
jobs, any blocker relation over the listing order: forward, backward, self loops, cycles), all result sets, all
flag combinations, all failure points supplied by the environment.

Scope.  These theorems are about the *command*: which jobs it selects, the closure under "depends on", which
result rows it removes, the state it writes, and what it does when it refuses or fails.  That the reset
submission then runs every job of the rerun set once, in dependency order, and ends with one entry per job is
carried by the system-level theorems (C01/C02/C03), which hold for any initial state satisfying the status
invariants — `prepare_statusInv_iff` says exactly when the state written here is such a state.

Two recorded deviations of the code (proved below as witnesses, replayed on the implementation by
`findings/f97_resubmit_no_missing.py` and the `resubmit` suite):
* with `--no-missing`, a never-submitted job outside the rerun set stays NOT_SUBMITTED while `submitted_jobs`
  counts it as submitted (`noMissing_counters_witness`), and the submitter will run it;
* a `--submission-groups-file` that cannot be read fails after promotion but before the `try/finally`: the role
  stays with the host (nothing is erased on that path: `groups_file_failure_keeps_role`);
* a write failure inside `prepare_for_resubmission` before job_status.json is written leaves results erased,
  the config reset and the job states old: neither try-submit-jobs nor resubmit-jobs can act afterwards
  (`prepare_write_failure_witness`; every other failure point leaves a way forward:
  `failure_leaves_way_forward`).
-/

namespace Jade.C13
open Jade.Resubmit Jade.Gen.Resubmit

/-! ## Selection -/

/-- `--failed` selects exactly the jobs whose (last) entry in results.json has a non-zero return code — run and
    failed, or canceled —, `--successful` those that ran with return code 0, `--missing` the jobs of the
    submission without an entry.  Names only: nothing else of a row matters. -/
theorem select_spec (n : Nat) (sm : List Row) (failed missing successful : Bool) (j : JobId) :
    j ∈ resubmitSelect n sm failed missing successful ↔
      (failed = true ∧ ∃ r, resultOf sm j = some r ∧ r.rc ≠ 0 ∧ (r.status = "finished" ∨ r.status = "canceled")) ∨
      (successful = true ∧ ∃ r, resultOf sm j = some r ∧ r.rc = 0 ∧ r.status = "finished") ∨
      (missing = true ∧ j < n ∧ resultOf sm j = none) := by
  have hm : (j ∈ if addsMissing missing then missingJobs n sm else []) ↔
      missing = true ∧ j < n ∧ resultOf sm j = none := by
    cases missing <;> simp [addsMissing, mem_missingJobs]
  simp only [resubmitSelect, mem_dedup, List.mem_append, List.mem_flatMap, mem_typesAdded, mem_byType, hm]
  grind [resultType_successful, resultType_failed, resultType_canceled, isSuccessful_iff, isFailed_iff, isCanceled_iff]

/-- with one entry per job in results.json (every completed submission) "the entry of `j`" is the row named `j` -/
theorem select_entry_unique (sm : List Row) (hnd : (sm.map (·.name)).Nodup) (j : JobId) (r : Row) :
    resultOf sm j = some r ↔ r ∈ sm ∧ r.name = j := by
  refine ⟨resultOf_some_mem, fun ⟨hr, hj⟩ => ?_⟩
  cases h : resultOf sm j with
  | none => exact absurd hj ((resultOf_none_iff sm j).1 h r hr)
  | some r' =>
    obtain ⟨hr', hj'⟩ := resultOf_some_mem h
    rw [eq_of_nodup_map hnd hr' hr (hj'.trans hj.symm)]

/-- the selection is a set -/
theorem select_nodup (n : Nat) (sm : List Row) (failed missing successful : Bool) :
    (resubmitSelect n sm failed missing successful).Nodup :=
  nodup_dedup _

/-! ## Closure under "depends on" -/

/-- The set the bounded iteration returns is exactly the selection plus every job that transitively depends on
    a selected job — for any listing order, forward and backward edges, self loops and cycles. -/
theorem closure_spec (n : Nat) (blockers : JobId → List JobId) (sel : List JobId) (st : CState)
    (h : resubmitClosure n blockers sel = .ok st) (j : JobId) :
    j ∈ st.cur ↔ ∃ x, x ∈ sel ∧ Reaches n blockers x j := by
  obtain ⟨inv, hcl, _⟩ := closure_inv h
  refine ⟨inv.sound j, ?_⟩
  rintro ⟨x, hx, hr⟩
  induction hr with
  | refl => exact inv.sub x hx
  | tail _ hstep ih => exact hcl _ hstep.1 ⟨_, hstep.2, ih⟩

/-- When every configured blocker exists (`check_job_dependencies`), `max_iter = num_jobs` passes suffice and the
    in-loop `assert i < max_iter - 1` never fires. -/
theorem closure_assert_never_fires (n : Nat) (blockers : JobId → List JobId)
    (hwf : ∀ j, j < n → ∀ b ∈ blockers j, b < n) (sel : List JobId) :
    ∃ st, resubmitClosure n blockers sel = .ok st :=
  closure_total hwf sel

/-- …and the hypothesis is needed: one job blocked by a name that is no job of the configuration. -/
theorem closure_assert_fires_on_dangling_blocker :
    (resubmitClosure 1 (fun _ => [5]) [5]).toOption.isNone = true := by decide

/-- the selection is part of the rerun set, the rerun set is closed, and it stays a set -/
theorem closure_contains_selection (n : Nat) (blockers : JobId → List JobId) (sel : List JobId) (st : CState)
    (h : resubmitClosure n blockers sel = .ok st) :
    (∀ x ∈ sel, x ∈ st.cur) ∧
    (∀ j, j < n → (∃ b, b ∈ blockers j ∧ b ∈ st.cur) → j ∈ st.cur) ∧
    (sel.Nodup → st.cur.Nodup) ∧
    (∀ x ∈ st.cur, x ∈ sel ∨ x < n) := by
  obtain ⟨inv, hcl, _⟩ := closure_inv h
  refine ⟨inv.sub, hcl, inv.nodup, fun x hx => ?_⟩
  obtain ⟨s, hs, hr⟩ := inv.sound x hx
  cases hr with
  | refl => exact Or.inl hs
  | tail _ hstep => exact Or.inr hstep.1

/-- The dict handed to `prepare_for_resubmission`: a key for exactly the configuration jobs with a blocker in
    the rerun set, holding exactly `blockers j ∩ rerun set`. -/
theorem closure_blockers_spec (n : Nat) (blockers : JobId → List JobId) (sel : List JobId) (st : CState)
    (h : resubmitClosure n blockers sel = .ok st) (j : JobId) :
    st.upd j =
      if j < n ∧ (∃ b, b ∈ blockers j ∧ b ∈ st.cur) then some ((blockers j).filter (fun b => st.cur.contains b))
      else none :=
  (closure_inv h).2.2 j

/-- hence `updated_blocking_jobs_by_name.get(name, set())` is `blockers j ∩ rerun set` for every job; in
    particular the empty set for a selected job none of whose blockers is rerun -/
theorem closure_blockers_written (n : Nat) (blockers : JobId → List JobId) (sel : List JobId) (st : CState)
    (h : resubmitClosure n blockers sel = .ok st) (j : JobId) (hj : j < n) :
    (st.upd j).getD [] = (blockers j).filter (fun b => st.cur.contains b) ∧
    ((∀ b ∈ blockers j, b ∉ st.cur) → (st.upd j).getD [] = []) := by
  have h1 := (closure_inv h).2.2.getD j hj
  exact ⟨h1, fun hno => h1.trans (List.filter_eq_nil_iff.2 fun b hb => by simpa using hno b hb)⟩

/-- closing a closed set changes nothing: same set (same order), same dict -/
theorem closure_idempotent (n : Nat) (blockers : JobId → List JobId) (sel : List JobId) (st : CState)
    (h : resubmitClosure n blockers sel = .ok st) :
    ∃ st', resubmitClosure n blockers st.cur = .ok st' ∧ st'.cur = st.cur ∧ st'.upd = st.upd := by
  obtain ⟨_, hc, hu⟩ := closure_inv h
  obtain ⟨st', h', hcur⟩ := closure_of_closed st.cur hc
  refine ⟨st', h', hcur, funext fun k => ?_⟩
  rw [(closure_inv h').2.2 k, hu k, hcur]

/-- a larger selection gives a larger rerun set -/
theorem closure_monotone (n : Nat) (blockers : JobId → List JobId) (sel sel' : List JobId) (st st' : CState)
    (h : resubmitClosure n blockers sel = .ok st) (h' : resubmitClosure n blockers sel' = .ok st')
    (hsub : ∀ x ∈ sel, x ∈ sel') : ∀ j ∈ st.cur, j ∈ st'.cur := by
  intro j hj
  obtain ⟨x, hx, hr⟩ := (closure_spec n blockers sel st h j).1 hj
  exact (closure_spec n blockers sel' st' h' j).2 ⟨x, hsub x hx, hr⟩

/-! ## Result pruning -/

/-- `clear_results_for_resubmission`: the rows that remain are exactly the rows of jobs outside the rerun set,
    every field unchanged, in their original order; no row of a rerun job remains; nothing new appears. -/
theorem clear_preserves (rows : List Row) (sel : List JobId) :
    clearResults rows sel = rows.filter (fun r => decide (r.name ∉ sel)) ∧
    (clearResults rows sel).Sublist rows ∧
    (∀ r, r ∈ clearResults rows sel ↔ r ∈ rows ∧ r.name ∉ sel) ∧
    (∀ j, j ∉ sel → (clearResults rows sel).filter (fun r => r.name == j) = rows.filter (fun r => r.name == j)) ∧
    (∀ j, j ∈ sel → (clearResults rows sel).filter (fun r => r.name == j) = []) ∧
    clearResults (clearResults rows sel) sel = clearResults rows sel := by
  refine ⟨clearResults_eq rows sel, clearResults_eq rows sel ▸ List.filter_sublist, mem_clearResults rows sel,
    fun j hj => ?_, fun j hj => ?_, clearResults_idem rows sel⟩
  · rw [clearResults_eq, List.filter_filter]
    exact List.filter_congr fun r _ => by by_cases h : r.name = j <;> simp [h, hj]
  · rw [clearResults_eq, List.filter_filter, List.filter_eq_nil_iff]
    intro r _
    by_cases h : r.name = j <;> simp [h, hj]

/-! ## The state `prepare_for_resubmission` writes -/

/-- Jobs of the rerun set become NOT_SUBMITTED with the blockers of the dict (none when absent); every other job
    keeps state and blockers; `is_complete` and `is_canceled` are cleared, the submitter field is kept;
    `submitted_jobs = num_jobs - |rerun set|`, `completed_jobs` = number of DONE jobs outside the set.  It raises
    (assertion) exactly on an incomplete submission. -/
theorem prepare_spec (n : Nat) (mem : Cfg) (state : JobId → JState) (bb : JobId → List JobId)
    (sel : List JobId) (upd : JobId → Option (List JobId)) :
    (mem.isComplete = false → prepareForResubmission n mem state bb sel upd = .error .assertion) ∧
    (mem.isComplete = true → ∃ p, prepareForResubmission n mem state bb sel upd = .ok p ∧
      (∀ j, j ∈ sel → p.state j = .notSubmitted ∧ p.blockedBy j = (upd j).getD []) ∧
      (∀ j, j ∉ sel → p.state j = state j ∧ p.blockedBy j = bb j) ∧
      p.cfg.isComplete = false ∧ p.cfg.isCanceled = false ∧ p.cfg.submitter = mem.submitter ∧
      p.cfg.submitted = (n : Int) - (sel.length : Int) ∧
      p.cfg.completed = (((List.range n).countP (fun j => !sel.contains j && (state j == .done)) : Nat) : Int)) := by
  rw [prepare_eq]
  refine ⟨fun hc => by rw [hc]; rfl, fun hc => ⟨_, by rw [hc]; rfl, ?_⟩⟩
  exact ⟨fun j hj => by simp [prepared, hj], fun j hj => by simp [prepared, hj], rfl, rfl, rfl, rfl, rfl⟩

/-- The written state satisfies the status invariants (`completed_jobs` = number of DONE jobs, `submitted_jobs` =
    number of SUBMITTED or DONE jobs) **iff** no never-submitted job is left outside the rerun set.
    (`completed_jobs` is always right; `submitted_jobs` is off by the number of such jobs.) -/
theorem prepare_statusInv_iff (n : Nat) (mem : Cfg) (state : JobId → JState) (bb : JobId → List JobId)
    (sel : List JobId) (upd : JobId → Option (List JobId)) (p : Prepared)
    (hp : prepareForResubmission n mem state bb sel upd = .ok p)
    (hnd : sel.Nodup) (hlt : ∀ j ∈ sel, j < n) :
    StatusInv n p.state p.cfg ↔ ∀ j, j < n → state j = .notSubmitted → j ∈ sel := by
  obtain ⟨-, rfl⟩ := prepare_ok_iff.1 hp
  have hsub := submitted_eq_iff hnd hlt (fun j => if j ∈ sel then .notSubmitted else state j) (fun j hj => if_pos hj)
  refine ⟨fun h j hj hs => hsub.1 h.2 j hj (by simp [hs]), fun h => ⟨?_, hsub.2 fun j hj hs => ?_⟩⟩
  · exact congrArg Nat.cast (List.countP_congr fun j _ => by by_cases hj : j ∈ sel <;> simp [prepared, hj])
  · by_cases hjs : j ∈ sel
    · exact hjs
    · exact h j hj (by simpa [hjs] using hs)

/-- The same condition says that the jobs the reset state offers to the submitter (NOT_SUBMITTED) are exactly
    the rerun set. -/
theorem prepare_candidates_iff (n : Nat) (mem : Cfg) (state : JobId → JState) (bb : JobId → List JobId)
    (sel : List JobId) (upd : JobId → Option (List JobId)) (p : Prepared)
    (hp : prepareForResubmission n mem state bb sel upd = .ok p) :
    (∀ j, p.state j = .notSubmitted ↔ (j ∈ sel ∨ state j = .notSubmitted)) ∧
    ((∀ j, j < n → (p.state j = .notSubmitted ↔ j ∈ sel)) ↔ ∀ j, j < n → state j = .notSubmitted → j ∈ sel) := by
  obtain ⟨-, rfl⟩ := prepare_ok_iff.1 hp
  have h1 : ∀ j, (if j ∈ sel then JState.notSubmitted else state j) = .notSubmitted ↔
      (j ∈ sel ∨ state j = .notSubmitted) := by
    intro j; by_cases hj : j ∈ sel <;> simp [hj]
  refine ⟨h1, ?_⟩
  simp only [prepared, h1]
  exact ⟨fun h j hj hs => (h j hj).1 (Or.inr hs), fun h j hj => ⟨fun hh => hh.elim id (h j hj), Or.inl⟩⟩

/-- Default flags (`--missing` on) on a coherent completed submission — a never-submitted job has no result, the
    results belong to jobs of the submission —: the state the command writes satisfies the status invariants, so
    the system-level theorems apply to the rerun. -/
theorem prepare_statusInv_with_missing (n : Nat) (blockers : JobId → List JobId) (sm : List Row)
    (failed successful : Bool) (mem : Cfg) (state : JobId → JState) (bb : JobId → List JobId)
    (st : CState) (p : Prepared)
    (hnames : ∀ r ∈ sm, r.name < n)
    (hcoh : ∀ j, j < n → state j = .notSubmitted → resultOf sm j = none)
    (hcl : resubmitClosure n blockers (resubmitSelect n sm failed true successful) = .ok st)
    (hp : prepareForResubmission n mem state bb st.cur st.upd = .ok p) :
    StatusInv n p.state p.cfg := by
  obtain ⟨hsub, _, hnd, hlt⟩ := closure_contains_selection n blockers _ st hcl
  have hname : ∀ j r, resultOf sm j = some r → j < n := fun j r hr =>
    (resultOf_some_mem hr).2 ▸ hnames r (resultOf_some_mem hr).1
  have hlt' : ∀ j ∈ st.cur, j < n := by
    intro j hj
    rcases hlt j hj with h | h
    · rcases (select_spec n sm failed true successful j).1 h with ⟨_, r, hr, _⟩ | ⟨_, r, hr, _⟩ | ⟨_, h, _⟩
      · exact hname j r hr
      · exact hname j r hr
      · exact h
    · exact h
  rw [prepare_statusInv_iff n mem state bb st.cur st.upd p hp (hnd (select_nodup n sm failed true successful)) hlt']
  intro j hj hs
  exact hsub j ((select_spec n sm failed true successful j).2 (Or.inr (Or.inr ⟨rfl, hj, hcoh j hj hs⟩)))

/-- Every blocker written for a job of the rerun set is itself in the rerun set, hence NOT_SUBMITTED: the reset
    state is self-contained (a rerun job waits only for rerun jobs, and for all of its configured blockers that
    are rerun). -/
theorem rerun_blockers_in_closure (n : Nat) (blockers : JobId → List JobId) (sel : List JobId) (st : CState)
    (mem : Cfg) (state : JobId → JState) (bb : JobId → List JobId) (p : Prepared)
    (hcl : resubmitClosure n blockers sel = .ok st)
    (hp : prepareForResubmission n mem state bb st.cur st.upd = .ok p) (j : JobId) (hj : j < n) (hin : j ∈ st.cur) :
    p.state j = .notSubmitted ∧
    p.blockedBy j = (blockers j).filter (fun b => st.cur.contains b) ∧
    (∀ b ∈ p.blockedBy j, b ∈ blockers j ∧ b ∈ st.cur ∧ p.state b = .notSubmitted) ∧
    (∀ b ∈ blockers j, b ∈ st.cur → b ∈ p.blockedBy j) := by
  obtain ⟨-, rfl⟩ := prepare_ok_iff.1 hp
  have hw := (closure_blockers_written n blockers sel st hcl j hj).1
  simp only [prepared, hin, if_true, hw]
  refine ⟨trivial, trivial, fun b hb => ?_, fun b hb hbc => List.mem_filter.2 ⟨hb, by simpa using hbc⟩⟩
  obtain ⟨h1, h2⟩ := List.mem_filter.1 hb
  have hbc : b ∈ st.cur := by simpa using h2
  exact ⟨h1, hbc, by simp [hbc]⟩

/-! ## The command: refusal and failure behaviour -/

-- a path through the `try` block is evaluated by unfolding these, given what the environment supplies
attribute [local simp] finish trySteps runSteps runStep ctx0

/-- On a submission that is not complete the command exits with code 1 and leaves every file as it was — job
    states, blockers, results, results.json, counters, flags, events —; the submitter field too: untouched while
    somebody holds the role, released again when the command itself had been promoted.  (Model without the
    version counters of the cluster files.) -/
theorem refuses_incomplete (env : Env) (fl : Flags) (s : Sub) (hl : env.loadFails = false)
    (hc : s.cfg.isComplete = false) :
    (resubmitCmd env fl s).outcome = .exit 1 ∧ (resubmitCmd env fl s).s = s ∧
    (resubmitCmd env fl s).roundEntered = false ∧ (resubmitCmd env fl s).pruned = false := by
  by_cases hfree : s.cfg.submitter = none
  · rw [resubmitCmd_free env fl s hl hfree, if_pos hc]
    exact ⟨rfl, rfl, rfl, rfl⟩
  · rw [resubmitCmd_held env fl s hl hfree, hc]
    exact ⟨rfl, rfl, rfl, rfl⟩

/-- …also while another node (or this one) is the submitter: its role is not taken away. -/
theorem refuses_incomplete_keeps_foreign_role (env : Env) (fl : Flags) (s : Sub) (hl : env.loadFails = false)
    (hc : s.cfg.isComplete = false) (h : String) (hh : s.cfg.submitter = some h) :
    (resubmitCmd env fl s).s.cfg.submitter = some h := by
  rw [(refuses_incomplete env fl s hl hc).2.1]; exact hh

/-- Full-strength reading of "a failure never leaves the submission with results erased and no way forward":
    for EVERY environment (every failure point: load, groups file, results.json, closure, reset before/after the
    rewrite, the three writes of prepare, events cleanup, JobSubmitter.load, the submit round) — whenever this run
    removed or rewrote result rows, the submitter role is free afterwards, so try-submit-jobs or a repeated
    resubmit-jobs can act. -/
theorem failure_not_stranded (env : Env) (fl : Flags) (s : Sub) :
    ((resubmitCmd env fl s).pruned = true ∨ (resubmitCmd env fl s).s.rows ≠ s.rows) →
      (resubmitCmd env fl s).s.cfg.submitter = none := by
  intro h
  rcases cmd_cases env fl s with ⟨o, cfg, he⟩ | he <;> rw [he] at h ⊢
  · simp at h
  · rfl

/-- Every failure point behind a successful promotion — except a groups file that cannot be read — releases the
    role (the steps run inside `try/finally: demote_from_submitter`). -/
theorem failure_releases_role (env : Env) (fl : Flags) (s : Sub) (hl : env.loadFails = false)
    (hc : s.cfg.isComplete = true) (hfree : s.cfg.submitter = none) (hg : env.groups ≠ .raises) :
    (resubmitCmd env fl s).s.cfg.submitter = none := by
  rw [resubmitCmd_free env fl s hl hfree, if_neg (by simp [hc])]
  split
  · contradiction
  · exact hfree
  · exact hfree
  all_goals exact tryBlock_eq env fl _ (ctx0_inv env fl s trySteps).mem_submitter ▸ rfl

/-- "…and no way forward", positively, for EVERY way the command can end on a complete submission whose role was
    free — success or any failure point (missing results.json, closure, reset before/after the rewrite, the last
    write of prepare, events cleanup, JobSubmitter.load, the submit round) — EXCEPT a failure at one of the first
    two writes of `prepare_for_resubmission` (excluded by hypothesis; see `prepare_write_failure_witness`):
    the role is released, and the files are either
    * untouched apart from the rows of the rerun set: config/status exactly as before, hence still complete and
      free, so the command can be repeated (and `repeat_after_failure_same_result` says where that ends), or
    * fully prepared: exactly the rows, job states, blockers, counters and flags that a successful command hands to
      its own submit round (`success_spec`), with the role free, so try-submit-jobs can act on it. -/
theorem failure_leaves_way_forward (env : Env) (fl : Flags) (s : Sub) (hl : env.loadFails = false)
    (hc : s.cfg.isComplete = true) (hfree : s.cfg.submitter = none)
    (hg : env.groups = .absent ∨ env.groups = .ok)
    (hp1 : env.prepFails ≠ some .config) (hp2 : env.prepFails ≠ some .jobs) :
    (resubmitCmd env fl s).s.cfg.submitter = none ∧
    (((resubmitCmd env fl s).s.cfg = s.cfg ∧ (resubmitCmd env fl s).s.state = s.state ∧
      (resubmitCmd env fl s).s.blockedBy = s.blockedBy ∧
      ((resubmitCmd env fl s).pruned = false → (resubmitCmd env fl s).s.rows = s.rows) ∧
      ((resubmitCmd env fl s).pruned = true → ∃ sm st, s.summary = some sm ∧
        resubmitClosure s.n s.blockers (resubmitSelect s.n sm fl.failed fl.missing fl.successful) = .ok st ∧
        (resubmitCmd env fl s).s.rows = clearResults s.rows st.cur)) ∨
     (∃ sm st p, s.summary = some sm ∧
        resubmitClosure s.n s.blockers (resubmitSelect s.n sm fl.failed fl.missing fl.successful) = .ok st ∧
        prepareForResubmission s.n { s.cfg with submitter := some env.host } s.state s.blockedBy st.cur st.upd = .ok p ∧
        (resubmitCmd env fl s).s.state = p.state ∧ (resubmitCmd env fl s).s.blockedBy = p.blockedBy ∧
        (resubmitCmd env fl s).s.cfg = { p.cfg with submitter := none } ∧
        (resubmitCmd env fl s).s.rows = clearResults s.rows st.cur)) := by
  refine ⟨failure_releases_role env fl s hl hc hfree (by rcases hg with h | h <;> simp [h]), ?_⟩
  rw [cmd_eq_try env fl s hl hc hfree hg]
  have hrel := Cfg.release_of_free _ env.host hfree
  -- the statements up to `prepare_for_resubmission` are evaluated; those after it only matter through their frame
  simp only [trySteps]
  generalize htail : [Step.events, Step.load, Step.round] = tail
  cases hsm : s.summary with
  | none => exact .inl (by simp [hsm, hrel])
  | some sm =>
  cases hcf : env.closureFails with
  | true => exact .inl (by simp [hsm, hcf, hrel])
  | false =>
  cases hcl : resubmitClosure s.n s.blockers (resubmitSelect s.n sm fl.failed fl.missing fl.successful) with
  | error e => exact .inl (by simp [hsm, hcf, hcl, hrel])
  | ok st =>
  cases hr : env.resetFails with
  | some b => exact .inl (by cases b <;> simp [hsm, hcf, hcl, hr, hrel])
  | none =>
    refine .inr ⟨sm, st, _, rfl, hcl, prepare_ok_iff.2 ⟨hc, rfl⟩, ?_⟩
    cases hpf : env.prepFails with
    | some pf =>
      cases pf with
      | config => exact absurd hpf hp1
      | jobs => exact absurd hpf hp2
      | groups => simp [hsm, hcf, hcl, hr, prepare_eq, hc, prepared, hpf]
    | none =>
      simp only [runSteps, runStep, ctx0, hsm, hcf, hcl, hr, prepare_eq, hc, hpf, Bool.false_eq_true, if_false,
        if_true]
      subst htail
      simp [-runSteps, runSteps_tail_frame env fl, prepared]

/-- Observation (not a violation of the property's conjunction: nothing is erased on this path): a
    `--submission-groups-file` that cannot be loaded or validated raises after promotion and before the
    `try/finally`; the submitter field keeps this host, everything else is unchanged … -/
theorem groups_file_failure_keeps_role (env : Env) (fl : Flags) (s : Sub) (hl : env.loadFails = false)
    (hc : s.cfg.isComplete = true) (hfree : s.cfg.submitter = none) (hg : env.groups = .raises) :
    (resubmitCmd env fl s).outcome = .raised .valueError ∧
    (resubmitCmd env fl s).s = { s with cfg := { s.cfg with submitter := some env.host } } ∧
    (resubmitCmd env fl s).pruned = false ∧ (resubmitCmd env fl s).roundEntered = false := by
  rw [resubmitCmd_free env fl s hl hfree, if_neg (by simp [hc]), hg]
  exact ⟨rfl, rfl, rfl, rfl⟩

/-- … and from then on every resubmit-jobs on the (complete) submission dies on `assert promoted`, changing
    nothing. -/
theorem held_role_blocks_resubmission (env : Env) (fl : Flags) (s : Sub) (hl : env.loadFails = false)
    (hc : s.cfg.isComplete = true) (hheld : s.cfg.submitter ≠ none) :
    (resubmitCmd env fl s).outcome = .raised .assertion ∧ (resubmitCmd env fl s).s = s ∧
    (resubmitCmd env fl s).pruned = false ∧ (resubmitCmd env fl s).roundEntered = false := by
  rw [resubmitCmd_held env fl s hl hheld, hc]
  exact ⟨rfl, rfl, rfl, rfl⟩

/-- The command never writes config.json or results.json, so whatever happened — including a failure after the
    rows were pruned — a repeated command computes the same selection and the same rerun set: selection reads
    results.json, not the pruned CSV. -/
theorem repeat_after_failure_same_selection (env : Env) (fl fl' : Flags) (s : Sub) (sm : List Row)
    (hsm : s.summary = some sm) :
    (resubmitCmd env fl s).s.summary = some sm ∧
    resubmitSelect (resubmitCmd env fl s).s.n sm fl'.failed fl'.missing fl'.successful =
      resubmitSelect s.n sm fl'.failed fl'.missing fl'.successful ∧
    ∀ sel, (resubmitClosure (resubmitCmd env fl s).s.n (resubmitCmd env fl s).s.blockers sel).toOption.map (·.cur) =
           (resubmitClosure s.n s.blockers sel).toOption.map (·.cur) := by
  obtain ⟨h1, h2, h3, _⟩ := cmd_frame env fl s
  exact ⟨by rw [h3, hsm], by rw [h1], fun sel => by rw [h1, h2]⟩

/-- No failure: when the submit round starts the command has removed exactly the rows of the rerun set, written
    the state of `prepare_spec` for (rerun set, blockers dict) of `closure_spec`/`closure_blockers_spec`, emptied
    events/ if it exists (and not failed if it does not); afterwards the role is released and the exit code is 0
    for GOOD / IN_PROGRESS and 1 for ERROR. -/
theorem success_spec (env : Env) (fl : Flags) (s : Sub) (sm : List Row) (st : CState) (rs : RoundStatus)
    (hl : env.loadFails = false) (hc : s.cfg.isComplete = true) (hfree : s.cfg.submitter = none)
    (hg : env.groups = .absent ∨ env.groups = .ok) (hsm : s.summary = some sm)
    (hcl : resubmitClosure s.n s.blockers (resubmitSelect s.n sm fl.failed fl.missing fl.successful) = .ok st)
    (h1 : env.closureFails = false) (h2 : env.resetFails = none) (h3 : env.prepFails = none)
    (h4 : env.eventsFails = false) (h5 : env.loadMgrFails = false) (h6 : env.round = some rs) :
    ∃ p, prepareForResubmission s.n { s.cfg with submitter := some env.host } s.state s.blockedBy st.cur st.upd = .ok p ∧
      (resubmitCmd env fl s).outcome = .exit (if rs = .error then 1 else 0) ∧
      (resubmitCmd env fl s).roundEntered = true ∧
      (resubmitCmd env fl s).s.rows = clearResults s.rows st.cur ∧
      (resubmitCmd env fl s).s.state = p.state ∧
      (resubmitCmd env fl s).s.blockedBy = p.blockedBy ∧
      (resubmitCmd env fl s).s.cfg = { p.cfg with submitter := none } ∧
      (resubmitCmd env fl s).s.events = s.events.map (fun _ => 0) ∧
      (resubmitCmd env fl s).s.summary = s.summary := by
  refine ⟨_, prepare_ok_iff.2 ⟨hc, rfl⟩, ?_⟩
  rw [cmd_eq_try env fl s hl hc hfree hg]
  cases hev : s.events <;>
    simp [hsm, hcl, h1, h2, h3, h4, h5, h6, prepare_eq, hc, prepared, hev, eventsGuard, retOf_eq]

/-- A failure in the closure step or in `_reset_results` (before or after the CSV was rewritten) on a complete
    submission: exception, role released, submission still complete, and the only possible change is that the
    rows of the rerun set are gone. -/
theorem early_failure_state (env : Env) (fl : Flags) (s : Sub) (sm : List Row) (st : CState)
    (hl : env.loadFails = false) (hc : s.cfg.isComplete = true) (hfree : s.cfg.submitter = none)
    (hg : env.groups = .absent ∨ env.groups = .ok) (hsm : s.summary = some sm)
    (hcl : resubmitClosure s.n s.blockers (resubmitSelect s.n sm fl.failed fl.missing fl.successful) = .ok st)
    (hfail : env.closureFails = true ∨ env.resetFails ≠ none) :
    (resubmitCmd env fl s).outcome = .raised .ioError ∧
    (resubmitCmd env fl s).roundEntered = false ∧
    (resubmitCmd env fl s).s =
      { s with rows := if env.closureFails = false ∧ env.resetFails = some true then clearResults s.rows st.cur else s.rows } := by
  rw [cmd_eq_try env fl s hl hc hfree hg]
  have hrel := Cfg.release_of_free _ env.host hfree
  cases hcf : env.closureFails
  · cases hr : env.resetFails with
    | none => simp [hcf, hr] at hfail
    | some b => cases b <;> simp [hsm, hcl, hcf, hr, hrel]
  · simp [hsm, hcf, hrel]

/-- …and repeating the same command (now without failure) ends exactly where a first run without failure would
    have ended: same exit code, rows, job states, blockers, counters, flags, events. -/
theorem repeat_after_failure_same_result (env env' : Env) (fl : Flags) (s : Sub) (sm : List Row) (st : CState)
    (rs : RoundStatus)
    (hl : env.loadFails = false) (hc : s.cfg.isComplete = true) (hfree : s.cfg.submitter = none)
    (hg : env.groups = .absent ∨ env.groups = .ok) (hsm : s.summary = some sm)
    (hcl : resubmitClosure s.n s.blockers (resubmitSelect s.n sm fl.failed fl.missing fl.successful) = .ok st)
    (hfail : env.closureFails = true ∨ env.resetFails ≠ none)
    (hl' : env'.loadFails = false) (hg' : env'.groups = .absent ∨ env'.groups = .ok)
    (h1 : env'.closureFails = false) (h2 : env'.resetFails = none) (h3 : env'.prepFails = none)
    (h4 : env'.eventsFails = false) (h5 : env'.loadMgrFails = false) (h6 : env'.round = some rs) :
    let r2 := resubmitCmd env' fl (resubmitCmd env fl s).s
    let r := resubmitCmd env' fl s
    r2.outcome = r.outcome ∧ r2.roundEntered = r.roundEntered ∧ r2.s.rows = r.s.rows ∧ r2.s.state = r.s.state ∧
    r2.s.blockedBy = r.s.blockedBy ∧ r2.s.cfg = r.s.cfg ∧ r2.s.events = r.s.events := by
  obtain ⟨rows', hs1, hrows⟩ : ∃ rows', (resubmitCmd env fl s).s = { s with rows := rows' } ∧
      clearResults rows' st.cur = clearResults s.rows st.cur :=
    ⟨_, (early_failure_state env fl s sm st hl hc hfree hg hsm hcl hfail).2.2, by split <;> simp [clearResults_idem]⟩
  rw [hs1]
  intro r2 r
  obtain ⟨p, hp, a1, a2, a3, a4, a5, a6, a7, _⟩ :=
    success_spec env' fl s sm st rs hl' hc hfree hg' hsm hcl h1 h2 h3 h4 h5 h6
  obtain ⟨p', hp', b1, b2, b3, b4, b5, b6, b7, _⟩ :=
    success_spec env' fl { s with rows := rows' } sm st rs hl' hc hfree hg' hsm hcl h1 h2 h3 h4 h5 h6
  obtain rfl : p' = p := Except.ok.inj (hp'.symm.trans hp)
  exact ⟨b1.trans a1.symm, b2.trans a2.symm, b3.trans (hrows.trans a3.symm), b4.trans a4.symm, b5.trans a5.symm,
    b6.trans a6.symm, b7.trans a7.symm⟩

/-! ## The recorded deviation: `--no-missing` with never-submitted jobs -/

/-- three independent jobs of a canceled, then force-completed submission: j0 failed, j1 succeeded, j2 was never
    submitted -/
def noMissingWitness : Sub :=
  { n := 3, blockers := fun _ => [],
    summary := some [⟨0, 1, "finished", "1.5", "1700000000.0", "11"⟩, ⟨1, 0, "finished", "1.5", "1700000001.0", "11"⟩],
    rows := [⟨0, 1, "finished", "1.5", "1700000000.0", "11"⟩, ⟨1, 0, "finished", "1.5", "1700000001.0", "11"⟩],
    state := fun j => if j = 2 then .notSubmitted else .done,
    blockedBy := fun _ => [],
    cfg := { submitter := none, isComplete := true, isCanceled := true, submitted := 2, completed := 2 },
    events := none }

/-- `resubmit-jobs --no-missing` on it: the rerun set is {j0}; the command writes `submitted_jobs = 2` although
    only j1 is submitted/done, and leaves j2 NOT_SUBMITTED, i.e. a candidate of the next submit round although it
    was not selected.  The status invariants do NOT hold for the written state. -/
theorem noMissing_counters_witness :
    let r := resubmitCmd { host := "login1" } { failed := true, missing := false, successful := false } noMissingWitness
    r.outcome = .exit 0 ∧ r.s.rows.map (·.name) = [1] ∧
    (List.range 3).map r.s.state = [.notSubmitted, .done, .notSubmitted] ∧
    r.s.cfg.submitted = 2 ∧ r.s.cfg.completed = 1 ∧
    ¬ StatusInv 3 r.s.state r.s.cfg := by
  decide

/-- the same submission with the default flags: j2 is selected as missing and the invariants hold -/
theorem default_flags_on_witness :
    let r := resubmitCmd { host := "login1" } { failed := true, missing := true, successful := false } noMissingWitness
    (List.range 3).map r.s.state = [.notSubmitted, .done, .notSubmitted] ∧
    r.s.cfg.submitted = 1 ∧ StatusInv 3 r.s.state r.s.cfg := by
  decide

/-- a malformed `--submission-groups-file` on it, then a plain resubmit-jobs: role kept, then assertion -/
theorem groups_file_witness :
    let r1 := resubmitCmd { host := "login1", groups := .raises } { failed := true, missing := true, successful := false } noMissingWitness
    let r2 := resubmitCmd { host := "login1" } { failed := true, missing := true, successful := false } r1.s
    r1.outcome = .raised .valueError ∧ r1.s.cfg.submitter = some "login1" ∧ r1.s.rows = noMissingWitness.rows ∧
    r2.outcome = .raised .assertion ∧ r2.s.cfg.submitter = some "login1" := by
  decide

/-- KNOWN FINDING `resubmit.prepare_failure.wedged` (the role IS released, so `failure_not_stranded` holds, but
    there is no way forward — the case excluded from `failure_leaves_way_forward`): an exception inside
    `prepare_for_resubmission` before job_status.json is written — here at its second write — leaves the rows of
    the rerun set erased, the config written by the `finally` demotion from the already mutated in-memory object
    (`is_complete = false`, counters reset) and the job states untouched (all DONE): the status invariants fail,
    and a repeated resubmit-jobs refuses (exit 1).  (On the implementation every later try-submit-jobs then fails
    the `completed_jobs == num_jobs` assertion of `_are_all_jobs_complete`.) -/
theorem prepare_write_failure_witness :
    let s : Sub := { noMissingWitness with
                     n := 2, state := (fun _ => JState.done),
                     cfg := { submitter := none, isComplete := true, isCanceled := false, submitted := 2, completed := 2 } }
    let fl : Flags := { failed := true, missing := true, successful := false }
    let r1 := resubmitCmd { host := "login1", prepFails := some .jobs } fl s
    let r2 := resubmitCmd { host := "login1" } fl r1.s
    r1.outcome = .raised .ioError ∧ r1.s.rows.map (·.name) = [1] ∧ r1.s.cfg.submitter = none ∧
    r1.s.cfg.isComplete = false ∧ r1.s.cfg.completed = 1 ∧ (List.range 2).map r1.s.state = [.done, .done] ∧
    ¬ StatusInv 2 r1.s.state r1.s.cfg ∧
    r2.outcome = .exit 1 ∧ r2.s.rows = r1.s.rows := by
  decide

/-! ## Non-vacuity -/

/-- reverse-listed chain j0 ← j1 ← j2 ← j3 (job k blocked by k+1), j3 selected -/
def revChain : JobId → List JobId := fun j => [[1], [2], [3], []].getD j []

/-- it takes three adding passes and a fourth that adds nothing (`max_iter = 4`): -/
example : (pass 4 revChain { cur := [3], upd := fun _ => none }).cur = [3, 2] := by decide
example : (pass 4 revChain (pass 4 revChain { cur := [3], upd := fun _ => none })).cur = [3, 2, 1] := by decide
example : (resubmitClosure 4 revChain [3]).toOption.map (·.cur) = some [3, 2, 1, 0] := by decide
example : (resubmitClosure 4 revChain [3]).toOption.map (fun st => (List.range 4).map st.upd)
    = some [some [1], some [2], some [3], none] := by decide
/-- with one pass fewer the loop would stop before j0 is found -/
example : (iter 4 revChain 2 0 { cur := [3], upd := fun _ => none }).toOption.map (·.cur) = some [3, 2, 1] := by decide

/-- diamond 0 → {1, 2} → 3 and an unrelated job 4; job 1 selected: 1 and 3 are rerun, 3 waits only for 1 -/
def diamond : JobId → List JobId := fun j => [[], [0], [0], [1, 2], []].getD j []
example : (resubmitClosure 5 diamond [1]).toOption.map (·.cur) = some [1, 3] := by decide
example : (resubmitClosure 5 diamond [1]).toOption.map (fun st => (List.range 5).map st.upd)
    = some [none, none, none, some [1], none] := by decide
example : (resubmitClosure 5 diamond [0]).toOption.map (fun st => (List.range 5).map st.upd)
    = some [none, some [0], some [0], some [1, 2], none] := by decide

/-- cycle 0 → 1 → 2 → 0 with a self loop on 0 and a job 3 outside: selecting 1 reruns the whole cycle -/
def cyc : JobId → List JobId := fun j => [[2, 0], [0], [1], []].getD j []
example : (resubmitClosure 4 cyc [1]).toOption.map (·.cur) = some [1, 2, 0] := by decide
example : (resubmitClosure 4 cyc [3]).toOption.map (·.cur) = some [3] := by decide
example : (resubmitClosure 4 cyc [1]).toOption.map (fun st => (List.range 4).map st.upd)
    = some [some [2, 0], some [0], some [1], none] := by decide

/-- selection on a mixed result set (0 ok, 1 failed, 2 canceled, 3 missing, 4 ok) -/
def mixed : List Row :=
  [⟨0, 0, "finished", "1.0", "1.0", "1"⟩, ⟨1, 2, "finished", "1.0", "2.0", "1"⟩, ⟨2, 1, "canceled", "0.0", "3.0", ""⟩,
   ⟨4, 0, "finished", "1.0", "4.0", "2"⟩]
example : resubmitSelect 5 mixed true true false = [2, 1, 3] := by decide
example : resubmitSelect 5 mixed false false true = [0, 4] := by decide
example : resubmitSelect 5 mixed true false false = [2, 1] := by decide
example : resubmitSelect 5 mixed false true false = [3] := by decide
example : resubmitSelect 5 mixed false false false = [] := by decide
example : clearResults mixed [1, 3] = [⟨0, 0, "finished", "1.0", "1.0", "1"⟩, ⟨2, 1, "canceled", "0.0", "3.0", ""⟩,
    ⟨4, 0, "finished", "1.0", "4.0", "2"⟩] := by decide

/-- an incomplete submission whose role is held by another host: exit 1, role untouched -/
example :
    let s : Sub := { noMissingWitness with cfg := { submitter := some "node7", isComplete := false, isCanceled := false,
                                                    submitted := 2, completed := 2 } }
    let r := resubmitCmd { host := "login1" } { failed := true, missing := true, successful := false } s
    r.outcome = .exit 1 ∧ r.s.cfg.submitter = some "node7" := by decide

/-- a failure after the rows were rewritten: exception, rows of the rerun set gone, role released, still complete -/
example :
    let r := resubmitCmd { host := "login1", resetFails := some true } { failed := true, missing := true, successful := false } noMissingWitness
    r.outcome = .raised .ioError ∧ r.s.rows.map (·.name) = [1] ∧ r.s.cfg.submitter = none ∧ r.s.cfg.isComplete = true ∧
    r.pruned = true := by decide

end Jade.C13
