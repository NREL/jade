import JadeModel.Proofs.ClusterRole

/-!
# C10 — only one submitter at a time; stale state never overwrites newer state

Theorems about `Model/Cluster.lean` (`jade/jobs/cluster.py`): any number of handles on any hosts, every sequence of
public API calls (`Op`), every history in which a handle was loaded before others changed the state.

* `holders` are tracked as ghost state (`Tracked.holder`): handles that got `True` from a promotion (or created the
  submission) and have not successfully demoted since.
* `Protocol` (decidable, per state and operation): the writing operations are invoked only by a current holder, a
  holder's handle is not discarded by re-loading into its slot, nobody tampers with the files behind the API.  Every JADE
  call site has this shape (promote → work → demote).  The code's own guard is weaker — `am_i_submitter()` compares HOST
  NAMES — and `C10_mutex_needs_protocol` shows that without `Protocol` mutual exclusion is refutable.
* Stale-write rejection (`C10_stale_rejected`) has NO hypothesis on the history at all.
-/

namespace Jade.C10
open Jade.Cluster Jade.Gen.Cluster

/-! ## promotion is refused while the role is held -/

/-- `Cluster.deserialize(try_promote_to_submitter=True)` while the config names a submitter, in ANY state in which the
    config can be read: the promotion is refused (`promoted = False`) and nothing on disk changes. -/
theorem C10_load_promotion_refused_while_held (s : Sys) (h : Hid) (host : Host) (jobs : Bool)
    (hheld : s.disk.cfg.submitter ≠ none) (hpres : s.disk.cfgMissing = false) (hfree : s.disk.marker = false) :
    (step s (.load h host true jobs)).2 = .bool false ∧ (step s (.load h host true jobs)).1.disk = s.disk := by
  have hp : doPromote s.disk (newHandle host s.disk) = (s.disk, newHandle host s.disk, .bool false) := by
    rcases doPromote_cases s.disk (newHandle host s.disk) with ⟨_, c2⟩ | ⟨c1, _⟩ | ⟨c1, _⟩ | ⟨c1, _⟩
    · exact c2
    all_goals exact absurd c1 hheld
  simp only [step, loadOp, hfree, Bool.false_eq_true, if_false, doLoad, hpres, if_true, hp]
  exact ⟨rfl, congrArg (fun m => ({ s.disk with marker := m } : Disk)) hfree.symm⟩

/-- `promote_to_submitter()` on an existing handle, after ANY history of API calls (no protocol assumed, only no
    tampering with the files): while the config on disk names a submitter the call never returns `True` and never
    changes a file.  It returns `False` when the handle's copy says "held"; a handle whose (necessarily out-of-date) copy
    says "free" gets a version mismatch. -/
theorem C10_promotion_refused_while_held (host : Host) (spec : List (List JobId × Bool)) (brk : Bool) (ops : List Op)
    (hnt : ∀ op ∈ ops, op.isTamper = false) (h : Hid)
    (hheld : (exec (create host spec brk) ops).disk.cfg.submitter ≠ none) :
    (step (exec (create host spec brk) ops) (.promote h)).2 ≠ .bool true ∧
    (step (exec (create host spec brk) ops) (.promote h)).1.disk.files = (exec (create host spec brk) ops).disk.files ∧
    (∀ x : Handle, (exec (create host spec brk) ops).handles h = some x →
      (exec (create host spec brk) ops).disk.marker = false →
      (x.cfg.submitter ≠ none ∧ (step (exec (create host spec brk) ops) (.promote h)).2 = .bool false) ∨
      (x.cfg.submitter = none ∧ x.cfg.version ≠ (exec (create host spec brk) ops).disk.cfgVer ∧
        (step (exec (create host spec brk) ops) (.promote h)).2 = .err .versionMismatch)) :=
  promotion_refused_of_coherent (Coherent.exec ops _ (Coherent.create host spec brk) hnt) h hheld

/-! ## mutual exclusion under the role protocol -/

/-- For every operation sequence that respects `Protocol`, at EVERY prefix: at most one handle holds the role; the
    submitter field on disk is set iff somebody holds it; and the holder's copies are current and name its own host. -/
theorem C10_mutex (host : Host) (spec : List (List JobId × Bool)) (brk : Bool) (ops pre post : List Op)
    (hsplit : ops = pre ++ post) (hp : ProtocolRun (Tracked.create host spec brk) ops = true) :
    (∀ a b : Hid, ((Tracked.create host spec brk).exec pre).holder a = true →
        ((Tracked.create host spec brk).exec pre).holder b = true → a = b) ∧
    (((Tracked.create host spec brk).exec pre).s.disk.cfg.submitter.isSome = true ↔
        ∃ h : Hid, ((Tracked.create host spec brk).exec pre).holder h = true) ∧
    (∀ h : Hid, ((Tracked.create host spec brk).exec pre).holder h = true →
        ∃ x : Handle, ((Tracked.create host spec brk).exec pre).s.handles h = some x ∧
          ((Tracked.create host spec brk).exec pre).s.disk.cfg.submitter = some x.host) := by
  subst hsplit
  exact mutex_of_roleInv (roleInv_of_run host spec brk pre post hp)

/-- What the code's own guard (`assert self.am_i_submitter()`, a HOST NAME comparison) does guarantee, after ANY
    tamper-free history and without the protocol: a demotion succeeds only for a handle on the very host the config names
    as submitter — a handle on another host can never take the role away. -/
theorem C10_demote_only_from_submitter_host (host : Host) (spec : List (List JobId × Bool)) (brk : Bool) (ops : List Op)
    (hnt : ∀ op ∈ ops, op.isTamper = false) (h : Hid)
    (hok : (step (exec (create host spec brk) ops) (.demote h)).2 = .ok) :
    ∃ x : Handle, (exec (create host spec brk) ops).handles h = some x ∧
      (exec (create host spec brk) ops).disk.cfg.submitter = some x.host :=
  demote_only_from_submitter_host_of_coherent (Coherent.exec ops _ (Coherent.create host spec brk) hnt) h hok

/-- the ghost state follows the model: `exec` of the tracked system is `exec` of the system -/
theorem tracked_exec_s (t : Tracked) (ops : List Op) : (t.exec ops).s = exec t.s ops := by
  induction ops generalizing t with
  | nil => rfl
  | cons op ops ih => exact ih (t.step op)

/-- WITNESS: without `Protocol`, mutual exclusion fails through the hostname comparison.  Handle 1 on the creator's host
    merely loads the state, yet may demote (`am_i_submitter()` compares host names); handle 2 on another host is then
    promoted while handle 0 — which never demoted — still believes it holds the role: two holders. -/
theorem C10_mutex_needs_protocol :
    let ops : List Op := [.load 1 0 false false, .demote 1, .load 2 1 true true]
    let t := (Tracked.create 0 [([], false), ([], false)] true).exec ops
    ProtocolRun (Tracked.create 0 [([], false), ([], false)] true) ops = false ∧
    (run (create 0 [([], false), ([], false)] true) ops).2 = [.bool false, .ok, .bool true] ∧
    t.holder 0 = true ∧ t.holder 2 = true ∧ t.s.disk.cfg.submitter = some 1 ∧
    -- … and the first one's next write is (only) caught by the version check
    (step t.s (.update 0 { submitted := [0], blocked := [], canceled := [], completed := [], hpcIds := [7], batchIdx := 2 })).2
      = .err .versionMismatch := by
  decide

/-! ## a stale handle cannot write -/

/-- A handle whose CONFIG copy is out of date (its `config.version` differs from `config_version.txt`) — in ANY state,
    reached by ANY history: every config-writing call is rejected and the four files are unchanged; what does change
    is stated exactly: the deadlock marker is created when the call raised under the lock.
    `update_job_status` and `mark_canceled` raise the version mismatch unconditionally; `promote`/`demote`/`mark_complete`
    raise it whenever their own precondition holds (otherwise they return `False` / raise the assertion first);
    `prepare_for_resubmission` takes no lock, hence leaves no marker. -/
theorem C10_stale_rejected (s : Sys) (h : Hid) (x : Handle) (hx : s.handles h = some x) (hfree : s.disk.marker = false)
    (hstale : x.cfg.version ≠ s.disk.cfgVer) :
    (∀ a : UpdateArgs, (step s (.update h a)).2 = .err .versionMismatch ∧
        (step s (.update h a)).1.disk = { s.disk with marker := true }) ∧
    ((step s (.markCanceled h)).2 = .err .versionMismatch ∧
        (step s (.markCanceled h)).1.disk = { s.disk with marker := true }) ∧
    ((x.cfg.submitter ≠ none ∧ (step s (.promote h)).2 = .bool false ∧ (step s (.promote h)).1.disk = s.disk) ∨
     (x.cfg.submitter = none ∧ (step s (.promote h)).2 = .err .versionMismatch ∧
        (step s (.promote h)).1.disk = { s.disk with marker := true })) ∧
    ((x.cfg.submitter ≠ some x.host ∧ (step s (.demote h)).2 = .err .assertion) ∨
     (x.cfg.submitter = some x.host ∧ (step s (.demote h)).2 = .err .versionMismatch)) ∧
    (step s (.demote h)).1.disk = { s.disk with marker := true } ∧
    ((x.cfg.isComplete = true ∧ (step s (.markComplete h)).2 = .err .assertion) ∨
     (x.cfg.isComplete = false ∧ (step s (.markComplete h)).2 = .err .versionMismatch)) ∧
    (step s (.markComplete h)).1.disk = { s.disk with marker := true } ∧
    (∀ (sel : List JobId) (bl : List (JobId × List JobId)),
      ((step s (.prepareResubmit h sel bl)).2 = .err .assertion ∨
        (step s (.prepareResubmit h sel bl)).2 = .err .versionMismatch) ∧
      (step s (.prepareResubmit h sel bl)).1.disk = s.disk) := by
  have lk := fun {f : Disk → Handle → Out} {y : Handle} {r : Res} (e : f s.disk x = (s.disk, y, r)) =>
    locked_unwritten s h f x y r hx hfree e
  -- the two clauses about `demote`, and those about `mark_complete`, come from one case distinction each
  refine ⟨fun a => lk (doUpdate_stale a s.disk x hstale), lk (doMarkCanceled_stale s.disk x hstale), ?_,
    and_assoc.1 ⟨?_, and_assoc.1 ⟨?_, fun sel bl => prepareResubmit_stale s h x sel bl hx hstale⟩⟩⟩
  · rcases doPromote_cases s.disk x with ⟨c1, c2⟩ | ⟨c1, _, c3⟩ | ⟨_, c2, _⟩ | ⟨_, c2, _⟩
    · exact .inl ⟨c1, (lk c2).1, (lk c2).2.trans (show ({ s.disk with marker := false } : Disk) = s.disk by rw [← hfree])⟩
    · exact .inr ⟨c1, lk c3⟩
    all_goals exact absurd c2 hstale
  · rcases doDemote_cases s.disk x with ⟨c1, c2⟩ | ⟨c1, _, c3⟩ | ⟨_, c2, _⟩ | ⟨_, c2, _⟩
    · exact ⟨.inl ⟨c1, (lk c2).1⟩, (lk c2).2⟩
    · exact ⟨.inr ⟨c1, (lk c3).1⟩, (lk c3).2⟩
    all_goals exact absurd c2 hstale
  · rcases doMarkComplete_stale s.disk x hstale with ⟨c1, c2⟩ | ⟨c1, c2⟩
    · exact ⟨.inl ⟨c1, (lk c2).1⟩, (lk c2).2⟩
    · exact ⟨.inr ⟨c1, (lk c2).1⟩, (lk c2).2⟩

/-- A handle whose JOB-STATUS copy is out of date (whatever its config copy): `update_job_status` is rejected BEFORE
    anything is written (the `_check_versions` call; without it `cluster_config.json` was rewritten first —
    findings/f98), and so is `complete_hpc_job_id` (after `list.remove`, which raises ValueError for an unknown id). -/
theorem C10_stale_jobstatus_rejected (s : Sys) (h : Hid) (x : Handle) (j : JsView) (hx : s.handles h = some x)
    (hj : x.js = some j) (hfree : s.disk.marker = false) (hstale : j.version ≠ s.disk.jsVer) :
    (∀ a : UpdateArgs, (step s (.update h a)).2 = .err .versionMismatch ∧
        (step s (.update h a)).1.disk = { s.disk with marker := true }) ∧
    (∀ id : Nat,
      ((j.hpcIds.contains id = false ∧ (step s (.completeHpcId h id)).2 = .err .valueError) ∨
       (j.hpcIds.contains id = true ∧ (step s (.completeHpcId h id)).2 = .err .versionMismatch)) ∧
      (step s (.completeHpcId h id)).1.disk = { s.disk with marker := true }) := by
  have lk := fun {f : Disk → Handle → Out} {y : Handle} {r : Res} (e : f s.disk x = (s.disk, y, r)) =>
    locked_unwritten s h f x y r hx hfree e
  refine ⟨fun a => lk (doUpdate_jsStale a s.disk x j hj hstale), fun id => ?_⟩
  rcases doCompleteHpcId_jsStale id s.disk x j hj hstale with ⟨c1, c2⟩ | ⟨c1, c2⟩
  · exact ⟨.inl ⟨c1, (lk c2).1⟩, (lk c2).2⟩
  · exact ⟨.inr ⟨c1, (lk c2).1⟩, (lk c2).2⟩

/-- the full-strength statement for `prepare_for_resubmission`: ANY out-of-date copy ⇒ no file changes -/
def PrepareResubmitRejectsStale : Prop :=
  ∀ (s : Sys) (h : Hid) (x : Handle) (j : JsView) (sel : List JobId) (bl : List (JobId × List JobId)),
    s.handles h = some x → x.js = some j → (x.cfg.version ≠ s.disk.cfgVer ∨ j.version ≠ s.disk.jsVer) →
    (step s (.prepareResubmit h sel bl)).1.disk.files = s.disk.files

/-- what IS proved (config copy out of date): part of `C10_stale_rejected` -/
theorem C10_prepareResubmit_stale_partial (s : Sys) (h : Hid) (x : Handle) (sel : List JobId)
    (bl : List (JobId × List JobId)) (hx : s.handles h = some x) (hstale : x.cfg.version ≠ s.disk.cfgVer) :
    (step s (.prepareResubmit h sel bl)).1.disk = s.disk :=
  (prepareResubmit_stale s h x sel bl hx hstale).2

/-- WITNESS (API level only; `resubmit-jobs` loads both copies under the lock right before): with a current config copy
    but an out-of-date job-status copy, `prepare_for_resubmission` rewrites `cluster_config.json` and
    `config_version.txt` and only then raises `JobStatusVersionMismatch` — it has no `_check_versions` up front and
    takes no lock.  History: both jobs run and finish, handle 0 marks the submission complete, handle 1 (loaded
    meanwhile) completes an HPC job id, handle 0 prepares the resubmission of job 0. -/
theorem C10_prepareResubmit_jsStale_writes_config : ¬ PrepareResubmitRejectsStale := by
  intro hall
  let u1 : UpdateArgs := { submitted := [0, 1], blocked := [], canceled := [], completed := [], hpcIds := [1], batchIdx := 2 }
  let u2 : UpdateArgs := { submitted := [], blocked := [], canceled := [], completed := [0, 1], hpcIds := [1], batchIdx := 2 }
  let s := exec (create 0 [([], false), ([], false)] false)
    [.update 0 u1, .update 0 u2, .markComplete 0, .load 1 1 false true, .completeHpcId 1 1]
  have h1 : (s.handles 0).isSome = true := by decide
  have h2 : ((s.handles 0).bind (·.js)).isSome = true := by decide
  have h3 : ((s.handles 0).bind (·.js)).map (·.version) ≠ some s.disk.jsVer := by decide
  have h4 : (step s (.prepareResubmit 0 [0] [])).2 = .err .versionMismatch ∧
      (step s (.prepareResubmit 0 [0] [])).1.disk.files ≠ s.disk.files := by decide
  cases hx : s.handles 0 with
  | none => rw [hx] at h1; cases h1
  | some x =>
    rw [hx] at h2 h3
    cases hj : x.js with
    | none => simp [hj] at h2
    | some j =>
      have hv : j.version ≠ s.disk.jsVer := by
        intro e; apply h3; simp [hj, e]
      exact h4.2 (hall s 0 x j [0] [] hx hj (Or.inr hv))

/-! ## under the protocol a holder is never stale -/

/-- Under `Protocol`, at every prefix, the holder's config copy and (if loaded) job-status copy are current, so none of
    its writes is ever rejected with a version mismatch. -/
theorem C10_protocol_never_stale (host : Host) (spec : List (List JobId × Bool)) (brk : Bool) (ops pre post : List Op)
    (hsplit : ops = pre ++ post) (hp : ProtocolRun (Tracked.create host spec brk) ops = true) (h : Hid)
    (hh : ((Tracked.create host spec brk).exec pre).holder h = true) :
    (∃ x : Handle, ((Tracked.create host spec brk).exec pre).s.handles h = some x ∧
      x.cfg.version = ((Tracked.create host spec brk).exec pre).s.disk.cfgVer ∧
      ∀ j : JsView, x.js = some j → j.version = ((Tracked.create host spec brk).exec pre).s.disk.jsVer) ∧
    (∀ op : Op, (op = .demote h ∨ (∃ a, op = .update h a) ∨ op = .markComplete h ∨ op = .markCanceled h ∨
          (∃ id, op = .completeHpcId h id) ∨ (∃ sel bl, op = .prepareResubmit h sel bl)) →
      (step ((Tracked.create host spec brk).exec pre).s op).2 ≠ .err .versionMismatch) := by
  subst hsplit
  exact never_stale_of_roleInv (roleInv_of_run host spec brk pre post hp) h hh

/-! ## versions -/

/-- One API call (any state, any handle): neither version file decreases (each moves by one or not at all) — and, when the version inside each data file agrees with its
    version file (true after every tamper-free history, see below), a version file moves EXACTLY when the data file's
    content changes. -/
theorem C10_versions_monotone (s : Sys) (op : Op) (hnt : op.isTamper = false) :
    s.disk.cfgVer ≤ (step s op).1.disk.cfgVer ∧ s.disk.jsVer ≤ (step s op).1.disk.jsVer ∧
    (s.disk.cfg.version = s.disk.cfgVer →
      (s.disk.cfgVer < (step s op).1.disk.cfgVer ↔ (step s op).1.disk.cfg ≠ s.disk.cfg) ∧
      (step s op).1.disk.cfg.version = (step s op).1.disk.cfgVer) ∧
    (s.disk.js.version = s.disk.jsVer →
      (s.disk.jsVer < (step s op).1.disk.jsVer ↔ (step s op).1.disk.js ≠ s.disk.js) ∧
      (step s op).1.disk.js.version = (step s op).1.disk.jsVer) := by
  obtain ⟨hc, hj⟩ := step_diskStep s op hnt
  generalize (step s op).1.disk = d' at hc hj
  rcases hc with ⟨a, b, _⟩ | ⟨a, b, _⟩ <;> rcases hj with ⟨c, e⟩ | ⟨c, e⟩ <;> grind

/-- After EVERY tamper-free history of API calls (no protocol assumed) the version inside each data file equals its
    version file — so the "moves exactly when the content changes" clauses of `C10_versions_monotone` apply at every
    reachable state — and the version files are at least what `create` wrote. -/
theorem C10_versions_agree_after_any_history (host : Host) (spec : List (List JobId × Bool)) (brk : Bool)
    (ops : List Op) (hnt : ∀ op ∈ ops, op.isTamper = false) :
    (exec (create host spec brk) ops).disk.cfg.version = (exec (create host spec brk) ops).disk.cfgVer ∧
    (exec (create host spec brk) ops).disk.js.version = (exec (create host spec brk) ops).disk.jsVer ∧
    1 ≤ (exec (create host spec brk) ops).disk.cfgVer ∧ 1 ≤ (exec (create host spec brk) ops).disk.jsVer :=
  have hC := Coherent.exec ops _ (Coherent.create host spec brk) hnt
  ⟨hC.agreeCfg, hC.agreeJs, (exec_versions_mono ops (create host spec brk) hnt).1,
    (exec_versions_mono ops (create host spec brk) hnt).2⟩

/-! ## non-vacuity -/

/-- a protocol-respecting run with three handles on two hosts: refused promotions, a hand-over, updates -/
example :
    let ops : List Op :=
      [.update 0 { submitted := [0], blocked := [(1, [0])], canceled := [], completed := [], hpcIds := [5], batchIdx := 2 },
       .load 1 1 true true, .demote 0, .load 2 0 true true, .promote 1,
       .update 2 { submitted := [], blocked := [], canceled := [], completed := [0], hpcIds := [], batchIdx := 2 },
       .demote 2, .read]
    ProtocolRun (Tracked.create 0 [([], false), ([0], false)] true) ops = true ∧
    (run (create 0 [([], false), ([0], false)] true) ops).2 =
      [.ok, .bool false, .ok, .bool true, .bool false, .ok, .ok, .ok] := by decide

/-- the hypothesis of `C10_stale_rejected` is satisfiable: handle 0 after the hand-over above is stale, its update is
    rejected, the marker appears and (with a lock library that never breaks stale markers) every later call times out -/
example :
    (run (create 0 [([], false)] false)
      [.demote 0, .load 1 1 true true,
       .update 0 { submitted := [0], blocked := [], canceled := [], completed := [], hpcIds := [5], batchIdx := 2 },
       .breakMarker, .read, .demote 1]).2 =
      [.ok, .bool true, .err .versionMismatch, .disabled, .err .lockTimeout, .err .lockTimeout] := by decide

/-- … and with one that does (filelock 3.32.7) the submission continues -/
example :
    (run (create 0 [([], false)] true)
      [.demote 0, .load 1 1 true true,
       .update 0 { submitted := [0], blocked := [], canceled := [], completed := [], hpcIds := [5], batchIdx := 2 },
       .breakMarker, .read, .demote 1]).2 =
      [.ok, .bool true, .err .versionMismatch, .ok, .ok, .ok] := by decide

end Jade.C10
