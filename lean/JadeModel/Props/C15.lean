import JadeModel.Proofs.Pipeline

/-!
# C15 — pipeline stages run strictly in order, each exactly once

Property theorems only (where a proof needs nothing but the invariant `Good` of the reached state, the statement is
first proved for every state that satisfies it, without the `C15_` prefix).  The model (`Model/Pipeline.lean`) interprets the statement programs and the
tests/expressions generated from `PipelineManager._submit_next_stage`, the CLI commands `jade pipeline submit` /
`submit-next-stage` and the tail of `JobSubmitter._handle_completion` (`Gen/Pipeline.lean`, regenerated from the
working tree on every run).

`run (init n) ops` is the pipeline directory of an `n`-stage pipeline after ANY finite sequence `ops` of CLI
commands (`start` = `jade pipeline submit`, `next k rc` = `jade pipeline submit-next-stage --stage-num=k
--return-code=rc`), each with an arbitrary behaviour of the environment (`Outcome`: does the stage's auto-config
succeed, what does `run_submit_jobs` return).  All statements are for every `n`, every such sequence (duplicates,
out-of-order, repeated, before the start, after completion), every integer stage number and return code —
unbounded, by induction over the sequence.

`submitted` (ghost) lists the `pipeline_stage_num` of every invocation of `JobSubmitter.run_submit_jobs`, in order.
A call is *accepted* (`Res.accepted`) when it passed the stage test and its effects were persisted: results `ok`
and `execError` (the latter: auto-config or `run_submit_jobs` failed AFTER `pipeline.json` was rewritten).

Outside the model: `pipeline.json` has no lock; that the completion of a stage's submission — and hence the
`submit-next-stage` command — happens once is property C05; the stage's own batches/submitters are C01–C06.
-/

namespace Jade.C15
open Jade.Pipeline Jade.Gen.Pipeline

/-! ## 1. Which calls are accepted, and what a refused call does -/

/-- **Exact outcome of every `submit-next-stage` call** in any state that satisfies the invariant: before `jade pipeline submit` it
    fails (no directory); a stage number other than `stage_num + 1` raises `InvalidParameter`; the number
    `stage_num + 1` is accepted unless the pipeline is already complete, in which case the call dies with
    `IndexError` (`stages[stage_num - 2]` is out of range). -/
theorem next_outcome {n : Nat} {s : State} (hg : Good n s) (k rc : Int) (out : Outcome) :
    let r := (step s (.next k rc out)).2
    (s.created = false → r = .noPipeline) ∧
    (s.created = true → k ≠ ((s.cfg.stageNum + 1 : Nat) : Int) → r = .invalidParam) ∧
    (s.created = true → k = ((s.cfg.stageNum + 1 : Nat) : Int) → s.cfg.isComplete = true → r = .indexError) ∧
    (s.created = true → k = ((s.cfg.stageNum + 1 : Nat) : Int) → s.cfg.isComplete = false → r.accepted = true) := by
  intro r
  have hle := hg.le
  have hlen := hg.len
  refine ⟨fun hc => ?_, fun hc hk => ?_, fun hc hk hcomp => ?_, fun hc hk hcomp => ?_⟩
  · exact congrArg Prod.snd (step_next_fresh s k rc out hc)
  · show (step s (.next k rc out)).2 = _
    rw [step_next s k rc out hc hg.pos (by omega), specNext, if_neg hk]; rfl
  · have hs := (hg.complete_iff.mp hcomp).2
    show (step s (.next k rc out)).2 = _
    rw [step_next s k rc out hc hg.pos (by omega), specNext, if_pos hk, if_neg (by omega)]; rfl
  · refine (accepted_iff hg _).2 ⟨hc, hk, ?_⟩
    have hs : s.cfg.stageNum ≠ n + 1 := fun h => by
      rw [hg.complete_iff.mpr ⟨hc, h⟩] at hcomp; cases hcomp
    omega

theorem C15_next_outcome (n : Nat) (ops : List Op) (k rc : Int) (out : Outcome) :
    let s := run (init n) ops
    let r := (step s (.next k rc out)).2
    (s.created = false → r = .noPipeline) ∧
    (s.created = true → k ≠ ((s.stageNum + 1 : Nat) : Int) → r = .invalidParam) ∧
    (s.created = true → k = ((s.stageNum + 1 : Nat) : Int) → s.isComplete = true → r = .indexError) ∧
    (s.created = true → k = ((s.stageNum + 1 : Nat) : Int) → s.isComplete = false → r.accepted = true) :=
  next_outcome (good_run (good_init n) ops) k rc out

/-- **A refused call changes nothing**: whatever is not accepted (wrong stage number, call after completion,
    second `jade pipeline submit`, call before the pipeline exists) leaves `pipeline.json` and the list of
    submitted stages exactly as they were. -/
theorem C15_rejected_unchanged (n : Nat) (ops : List Op) (op : Op)
    (h : (step (run (init n) ops) op).2.accepted = false) :
    (step (run (init n) ops) op).1 = run (init n) ops :=
  rejected_unchanged (good_run (good_init n) ops) op h

/-- **Accepted calls are exactly the stage numbers 2, 3, … in order, each at most once**, in any call sequence. -/
theorem C15_accepts_in_order (n : Nat) (ops : List Op) :
    acceptedStages (init n) ops = (List.range' 2 (acceptedStages (init n) ops).length).map Int.ofNat ∧
    (acceptedStages (init n) ops).Nodup ∧
    (acceptedStages (init n) ops).length ≤ n := by
  obtain ⟨h1, h2⟩ := accepted_spec (good_init n) ops
  have hle := (good_run (good_init n) ops).le
  have h1' : acceptedStages (init n) ops = (List.range' 2 (acceptedStages (init n) ops).length).map Int.ofNat := h1
  refine ⟨h1', ?_, ?_⟩
  · rw [h1']
    exact List.Pairwise.map Int.ofNat (fun a b (h : a ≠ b) h' => h (Int.ofNat.inj h'))
      (List.nodup_range' (s := 2) (n := (acceptedStages (init n) ops).length))
  · have : (run (init n) ops).cfg.stageNum = 1 + (acceptedStages (init n) ops).length := h2
    omega

/-! ## 2. The current stage -/

/-- **`stage_num` = 1 + number of accepted calls**, and it never exceeds `n + 1`. -/
theorem C15_stage_num_matches (n : Nat) (ops : List Op) :
    (run (init n) ops).stageNum = 1 + (acceptedStages (init n) ops).length ∧
    1 ≤ (run (init n) ops).stageNum ∧ (run (init n) ops).stageNum ≤ n + 1 ∧
    (run (init n) ops).numStages = n := by
  have hg := good_run (good_init n) ops
  exact ⟨(accepted_spec (good_init n) ops).2, hg.pos, hg.le, hg.len⟩

/-- **`stage_num` never decreases**, whatever is called afterwards. -/
theorem C15_stage_num_monotone (n : Nat) (ops more : List Op) :
    (run (init n) ops).stageNum ≤ (run (init n) (ops ++ more)).stageNum := by
  rw [run_append]
  exact (run_mono (good_run (good_init n) ops) more).1

/-! ## 3. Each stage is submitted once, in order, and only after the previous stage was reported -/

/-- **The stages handed to `run_submit_jobs` are strictly increasing, within `1 … n`, without duplicates, and never
    beyond the current stage**; if no auto-config command failed they are exactly `1, 2, …, min stage_num n`
    (a prefix of `1 … n`, consecutive), so their number is `min stage_num n`. -/
theorem C15_each_stage_submitted_once (n : Nat) (ops : List Op) :
    let s := run (init n) ops
    s.submitted.Sublist (List.range' 1 (min s.stageNum n)) ∧
    s.submitted.Pairwise (· < ·) ∧ s.submitted.Nodup ∧
    (∀ k ∈ s.submitted, 1 ≤ k ∧ k ≤ s.stageNum ∧ k ≤ n) ∧
    ((∀ op ∈ ops, op.args.out.cfgOk = true) → s.created = true →
      s.submitted = List.range' 1 (min s.stageNum n)) := by
  intro s
  have hg : Good n s := good_run (good_init n) ops
  have hsub : s.submitted.Sublist (List.range' 1 (min s.stageNum n)) := hg.sub
  refine ⟨hsub, List.Pairwise.sublist hsub List.pairwise_lt_range', hsub.nodup List.nodup_range', ?_, ?_⟩
  · intro k hk
    have := List.mem_range'_1.mp (hsub.subset hk)
    have h2 : s.stageNum = s.cfg.stageNum := rfl
    omega
  · intro hops hc
    exact (exact_run (good_init n) (by intro h; simp [init] at h) ops hops).submitted hg hc

/-- **Number of submissions vs. current stage**: never more submissions than `min stage_num n` (one per stage reached,
    none for the completion call); exactly that many once the pipeline is started and no auto-config failed; and the last
    stage submitted is never ahead of the persisted `stage_num`. -/
theorem C15_submitted_length (n : Nat) (ops : List Op) :
    let s := run (init n) ops
    s.submitted.length ≤ min s.stageNum n ∧
    ((∀ op ∈ ops, op.args.out.cfgOk = true) → s.created = true → s.submitted.length = min s.stageNum n) ∧
    (s.created = false → s.submitted = []) := by
  intro s
  have hg : Good n s := good_run (good_init n) ops
  obtain ⟨hsub, _, _, _, hex⟩ := C15_each_stage_submitted_once n ops
  refine ⟨?_, ?_, ?_⟩
  · have := hsub.length_le
    simpa using this
  · intro hops hc
    have : s.submitted = List.range' 1 (min s.stageNum n) := hex hops hc
    rw [this]; simp
  · intro hc
    have := (hg.fresh hc).2
    show s.handovers.map (·.stage) = []
    rw [this]; rfl

/-- **Stage `j + 1` is submitted only after the call that reported stage `j`**: whenever stage `j + 1` (`j ≥ 1`) has
    been handed to `run_submit_jobs`, the return code of stage `j` is recorded and the call
    `submit-next-stage --stage-num=j+1` is among the accepted ones. -/
theorem C15_submitted_after_report (n : Nat) (ops : List Op) (j : Nat) (hj : 1 ≤ j)
    (h : j + 1 ∈ (run (init n) ops).submitted) :
    (∃ r : Int, (run (init n) ops).returnCodes[j - 1]? = some (some r)) ∧
    ((j + 1 : Nat) : Int) ∈ acceptedStages (init n) ops := by
  have hg := good_run (good_init n) ops
  have hm := List.mem_range'_1.mp (hg.sub.subset h)
  refine ⟨hg.recorded (j - 1) (by omega), (mem_acceptedStages (good_init n) ops _).2 ⟨?_, by omega⟩⟩
  show 1 < j + 1
  omega

/-- **Hand-over discipline.**  A command hands at most one stage to `run_submit_jobs`; when it does, `pipeline.json`
    as persisted at that moment is already the file the command leaves behind (nothing is written after the
    hand-over), the stage handed over is the persisted current stage, the configuration loaded, the output directory
    and the `pipeline_stage_num` argument all belong to that stage, the pipeline is not complete, and the stage's
    auto-config did not fail. -/
theorem C15_handover_consistent (n : Nat) (ops : List Op) (op : Op) :
    let s := run (init n) ops
    let s' := (step s op).1
    s'.handovers = s.handovers ∨
    ∃ h : Handover, s'.handovers = s.handovers ++ [h] ∧ h.disk = s'.cfg ∧ h.stage = s'.stageNum ∧
      h.cfgStage = h.stage ∧ h.outStage = h.stage ∧ s'.isComplete = false ∧ h.stage ≤ n ∧
      op.args.out.cfgOk = true := by
  intro s s'
  rcases step_handover (good_run (good_init n) ops) op with h | ⟨h1, h2, h3, h4⟩
  · exact Or.inl h
  · exact Or.inr ⟨_, h1, rfl, rfl, rfl, rfl, h2, h3, h4⟩

/-! ## 4. Return codes -/

/-- **The return code passed with an accepted call is recorded for the stage it reports and never changes**:
    if, in a state `s` that satisfies the invariant (after any prefix `pre`), the call `submit-next-stage --stage-num=k --return-code=rc` is accepted, then
    `k = j + 2` for the 0-based stage position `j = stage_num - 1`, and after ANY continuation `post`
    `stages[j].return_code = rc`. -/
theorem return_codes_recorded {n : Nat} {s : State} (hg : Good n s) (post : List Op) (k rc : Int) (out : Outcome)
    (h : (step s (.next k rc out)).2.accepted = true) :
    ∃ j : Nat, k = ((j + 2 : Nat) : Int) ∧ j + 1 = s.cfg.stageNum ∧ j < n ∧
      (run s (.next k rc out :: post)).cfg.returnCodes[j]? = some (some rc) := by
  obtain ⟨_, hk, hle, hs, hrc⟩ := next_accepted hg k rc out h
  have hpos := hg.pos
  refine ⟨s.cfg.stageNum - 1, by rw [hk]; congr 1; omega, by omega, by omega, ?_⟩
  exact ((run_mono (good_step hg (.next k rc out)) post).2 _ (by rw [hs]; omega)).trans hrc

theorem C15_return_codes_recorded (n : Nat) (pre post : List Op) (k rc : Int) (out : Outcome)
    (h : (step (run (init n) pre) (.next k rc out)).2.accepted = true) :
    ∃ j : Nat, k = ((j + 2 : Nat) : Int) ∧ j + 1 = (run (init n) pre).stageNum ∧ j < n ∧
      (run (init n) (pre ++ .next k rc out :: post)).returnCodes[j]? = some (some rc) := by
  rw [run_append]
  exact return_codes_recorded (good_run (good_init n) pre) post k rc out h

/-- **Stages not yet reported have no return code**; stages already reported have one. -/
theorem C15_return_codes_pending (n : Nat) (ops : List Op) (i : Nat) :
    let s := run (init n) ops
    (s.stageNum ≤ i + 1 → i < n → s.returnCodes[i]? = some none) ∧
    (i + 1 < s.stageNum → ∃ r : Int, s.returnCodes[i]? = some (some r)) := by
  intro s
  have hg : Good n s := good_run (good_init n) ops
  exact ⟨hg.pending i, hg.recorded i⟩

/-! ## 5. Completion -/

/-- **The pipeline is marked complete exactly when the call `submit-next-stage --stage-num=n+1` (the report of the
    last stage) has been accepted** — equivalently when `stage_num = n + 1`, i.e. all `n` reports were accepted. -/
theorem C15_complete_only_after_last (n : Nat) (hn : 1 ≤ n) (ops : List Op) :
    ((run (init n) ops).isComplete = true ↔ ((n + 1 : Nat) : Int) ∈ acceptedStages (init n) ops) ∧
    ((run (init n) ops).isComplete = true ↔ (run (init n) ops).stageNum = n + 1) ∧
    ((run (init n) ops).isComplete = true ↔ (acceptedStages (init n) ops).length = n) := by
  have hg := good_run (good_init n) ops
  have h2 : (run (init n) ops).cfg.stageNum = 1 + _ := (accepted_spec (good_init n) ops).2
  have hle := hg.le
  have hcomp := hg.complete_iff_stageNum hn
  refine ⟨hcomp.trans ?_, hcomp, hcomp.trans (by omega)⟩
  rw [mem_acceptedStages (good_init n)]
  show _ ↔ 1 < n + 1 ∧ _
  omega

/-- **Once complete, everything is refused and nothing is submitted any more**: a further `jade pipeline submit`
    exits with "directory exists"; `submit-next-stage` raises `InvalidParameter`, except for the stage number
    `n + 2` which passes the stage test and dies with `IndexError`; in every case `pipeline.json` and the list of
    submitted stages stay as they are, for any continuation. -/
theorem C15_after_complete (n : Nat) (ops : List Op) (h : (run (init n) ops).isComplete = true) :
    (∀ op : Op, (step (run (init n) ops) op).1 = run (init n) ops ∧
      (step (run (init n) ops) op).2 = (match op with
        | .start _ => Res.dirExists
        | .next k _ _ => if k = ((n + 2 : Nat) : Int) then Res.indexError else Res.invalidParam)) ∧
    (∀ more : List Op, run (init n) (ops ++ more) = run (init n) ops) ∧
    (run (init n) ops).submitted.length ≤ n := by
  have hg := good_run (good_init n) ops
  refine ⟨fun op => complete_frozen hg h op, fun more => ?_, ?_⟩
  · rw [run_append]; exact run_complete hg h more
  · have := hg.sub.length_le
    simp only [List.length_range'] at this
    show ((run (init n) ops).handovers.map (·.stage)).length ≤ n
    omega

/-! ## 6. What is persisted when the submission of a stage fails -/

/-- **A failed submission is not rolled back.**  When the accepted call for stage `k` fails afterwards (the
    auto-config command fails, or `run_submit_jobs` returns non-zero) the call raises `ExecutionError`, but
    `pipeline.json` already says `stage_num = k` with the reported return code recorded; repeating the same call is
    therefore refused (`InvalidParameter`, nothing changes), and the stage is handed to `run_submit_jobs` only if its
    auto-config succeeded. -/
theorem failed_submission_persisted {n : Nat} {s : State} (hg : Good n s) (k rc : Int) (out : Outcome)
    (hc : s.created = true) (hk : k = ((s.cfg.stageNum + 1 : Nat) : Int))
    (hlt : s.cfg.stageNum < n) (hfail : out.cfgOk = false ∨ out.ret ≠ 0) :
    let s' := (step s (.next k rc out)).1
    (step s (.next k rc out)).2 = .execError ∧
    s'.stageNum = s.stageNum + 1 ∧ s'.returnCodes[s.stageNum - 1]? = some (some rc) ∧ s'.isComplete = false ∧
    s'.submitted = (if out.cfgOk then s.submitted ++ [s.stageNum + 1] else s.submitted) ∧
    (∀ (rc' : Int) (out' : Outcome), step s' (.next k rc' out') = (s', .invalidParam)) := by
  intro s'
  have hg' : Good n s' := good_step hg _
  have hlen := hg.len
  have hlen' := hg'.len
  have ha : Accepts n s (.next k rc out) := ⟨hc, hk, Nat.le_of_lt hlt⟩
  obtain ⟨_, _, _, hs, hr⟩ := next_accepted hg k rc out ((accepted_iff hg _).2 ha)
  have hs' : s'.cfg.stageNum = s.cfg.stageNum + 1 := hs
  have hc' : s'.created = true := hg'.created_of_lt (by have := hg.pos; omega)
  have hstep := step_of_accepts hg ha
  have hne : ¬ s.cfg.stageNum + 1 = s.cfg.returnCodes.length + 1 := by omega
  simp only [target, Op.args, finish, advance_stageNum, advance_len, hne, if_false] at hstep
  refine ⟨?_, hs, hr, hg'.not_complete (Or.inr (by omega)), ?_, fun rc' out' => ?_⟩
  · rcases Bool.eq_false_or_eq_true out.cfgOk with h | h
    · have hret : out.ret ≠ 0 := by simpa [h] using hfail
      simp [hstep, h, hret]
    · simp [hstep, h]
  · show (step s (.next k rc out)).1.handovers.map (·.stage) = _
    rcases Bool.eq_false_or_eq_true out.cfgOk with h | h <;>
      simp [hstep, h, State.submitted, handoverOf, State.stageNum]
  · rw [step_next s' k rc' out' hc' hg'.pos (by omega), specNext, if_neg (by rw [hk, hs']; omega), land_none]

theorem C15_failed_submission_persisted (n : Nat) (ops : List Op) (k rc : Int) (out : Outcome)
    (hc : (run (init n) ops).created = true) (hk : k = (((run (init n) ops).stageNum + 1 : Nat) : Int))
    (hlt : (run (init n) ops).stageNum < n) (hfail : out.cfgOk = false ∨ out.ret ≠ 0) :
    let s := run (init n) ops
    let s' := (step s (.next k rc out)).1
    (step s (.next k rc out)).2 = .execError ∧
    s'.stageNum = s.stageNum + 1 ∧ s'.returnCodes[s.stageNum - 1]? = some (some rc) ∧ s'.isComplete = false ∧
    s'.submitted = (if out.cfgOk then s.submitted ++ [s.stageNum + 1] else s.submitted) ∧
    (∀ (rc' : Int) (out' : Outcome), step s' (.next k rc' out') = (s', .invalidParam)) :=
  failed_submission_persisted (good_run (good_init n) ops) k rc out hc hk hlt hfail

/-! ## 7. The glue: the next-stage command is issued after `mark_complete`, with the right arguments -/

/-- **Program order of the completion tail** (`completionActions` is generated from the statement order of
    `_handle_completion`): for a submission created with `pipeline_stage_num = p`, `cluster.mark_complete()` comes
    first and the command comes second, and the command is exactly
    `jade pipeline submit-next-stage <dir> --stage-num=<p+1> --return-code=<status>`; a submission that is not a
    pipeline stage marks itself complete and issues no command. -/
theorem C15_next_after_mark_complete (p : Nat) (status : Int) (dir : String) :
    completionActions (some p) status dir =
      [.markComplete,
       .runCmd ("jade pipeline submit-next-stage " ++ dir ++ " --stage-num=" ++ toString (p + 1) ++
                " --return-code=" ++ toString status) (p + 1) status] ∧
    completionActions none status dir = [.markComplete] := by
  constructor
  · simp [completionActions, completionOrder, completionAction, isPipelineStage, nextStage, renderCmd,
      nextStageCmd, renderPiece, String.join]
  · simp [completionActions, completionOrder, completionAction, isPipelineStage]

/-- the status value interpolated into the command: 0 (`Status.GOOD`) when every job has a result, else 1 -/
theorem C15_completion_status (numResults numJobs : Nat) :
    completionStatus numResults numJobs = if numResults = numJobs then 0 else 1 := by
  unfold completionStatus
  by_cases h : numResults = numJobs <;> simp [h]

/-- **Completion of the current stage advances the pipeline by exactly one stage**: when the submission of the
    current stage `p` of a running pipeline completes with status `st`, its completion tail (run against the pipeline
    directory) is accepted, records `st` as the return code of stage `p`, makes `p + 1` the current stage, and marks the
    pipeline complete iff `p` was the last stage. -/
theorem completion_advances {n : Nat} {s : State} (hg : Good n s) (st : Int) (dir : String) (out : Outcome)
    (hc : s.created = true) (hic : s.cfg.isComplete = false) :
    let r := applyActions s out (completionActions (some s.stageNum) st dir)
    (∃ res : Res, r.2 = [res] ∧ res.accepted = true) ∧
    r.1.stageNum = s.stageNum + 1 ∧ r.1.returnCodes[s.stageNum - 1]? = some (some st) ∧
    (r.1.isComplete = true ↔ s.stageNum = n) := by
  intro r
  have hr : r = ((step s (.next ((s.stageNum + 1 : Nat) : Int) st out)).1, [(step s (.next ((s.stageNum + 1 : Nat) : Int) st out)).2]) := by
    show applyActions s out (completionActions (some s.stageNum) st dir) = _
    rw [(C15_next_after_mark_complete s.stageNum st dir).1]
    simp [applyActions]
  have hacc := (next_outcome hg ((s.stageNum + 1 : Nat) : Int) st out).2.2.2 hc rfl hic
  obtain ⟨_, _, hle, hs, hrc⟩ := next_accepted hg _ st out hacc
  have hg' := good_step hg (.next ((s.stageNum + 1 : Nat) : Int) st out)
  rw [hr]
  refine ⟨⟨_, rfl, hacc⟩, hs, hrc, ?_⟩
  show (step s (.next ((s.stageNum + 1 : Nat) : Int) st out)).1.cfg.isComplete = true ↔ s.cfg.stageNum = n
  rw [hg'.complete_iff, hs, hg'.created_of_lt (by have := hg.pos; omega)]
  simp

theorem C15_completion_advances (n : Nat) (ops : List Op) (st : Int) (dir : String) (out : Outcome)
    (hc : (run (init n) ops).created = true) (hic : (run (init n) ops).isComplete = false) :
    let s := run (init n) ops
    let r := applyActions s out (completionActions (some s.stageNum) st dir)
    (∃ res : Res, r.2 = [res] ∧ res.accepted = true) ∧
    r.1.stageNum = s.stageNum + 1 ∧ r.1.returnCodes[s.stageNum - 1]? = some (some st) ∧
    (r.1.isComplete = true ↔ s.stageNum = n) :=
  completion_advances (good_run (good_init n) ops) st dir out hc hic

/-! ## 8. The undisturbed run, for every number of stages -/

/-- **A pipeline of any size runs through**: `jade pipeline submit` followed by the in-order reports of stages
    1, 2, …, n with return codes `rcs` (each stage's completion issuing its one command, C05), in a benign environment,
    submits the stages 1, …, n exactly once in order, records exactly the reported return codes, and ends complete.
    (`reports 2 rcs` is the list `next 2 rcs[0], next 3 rcs[1], …`.) -/
theorem C15_orderly_run_completes (rcs : List Int) (hn : 1 ≤ rcs.length) :
    let n := rcs.length
    let s := run (init n) (.start Outcome.good :: reports 2 rcs)
    s.isComplete = true ∧ s.stageNum = n + 1 ∧ s.submitted = List.range' 1 n ∧
    (∀ (i : Nat) (h : i < n), s.returnCodes[i]? = some (some rcs[i])) ∧
    acceptedStages (init n) (.start Outcome.good :: reports 2 rcs) = (List.range' 2 n).map Int.ofNat := by
  intro n s
  have hg0 := good_init n
  have hg1 : Good n (step (init n) (.start Outcome.good)).1 := good_step hg0 _
  have hs1 : (step (init n) (.start Outcome.good)).1.cfg.stageNum = 1 := (start_stageNum hg0 Outcome.good).1
  have hc1 : (step (init n) (.start Outcome.good)).1.created = true := by
    rw [step_of_accepts hg0 (show Accepts n (init n) (.start Outcome.good) from rfl)]; rfl
  obtain ⟨hstage, hcr, hrcs⟩ := run_reports hg1 hc1 rcs (by rw [hs1]; omega)
  rw [hs1] at hstage hcr hrcs
  have hstage : s.cfg.stageNum = n + 1 := by rw [Nat.add_comm]; exact hstage
  have hcr : s.created = true := hcr
  have hg : Good n s := good_run hg0 _
  have hops : ∀ op ∈ (Op.start Outcome.good :: reports 2 rcs), op.args.out.cfgOk = true := by
    intro op h
    rcases List.mem_cons.1 h with rfl | h
    · rfl
    · exact reports_cfgOk _ _ op h
  have hmin : min (n + 1) n = n := by omega
  refine ⟨(hg.complete_iff_stageNum hn).2 hstage, hstage, ?_, fun i hi => ?_, ?_⟩
  · have := (C15_each_stage_submitted_once n (.start Outcome.good :: reports 2 rcs)).2.2.2.2 hops hcr
    rw [this]; show List.range' 1 (min s.cfg.stageNum n) = _; rw [hstage, hmin]
  · have := hrcs i hi
    rw [Nat.sub_self, Nat.zero_add] at this
    exact this
  · have h1 := (C15_accepts_in_order n (.start Outcome.good :: reports 2 rcs)).1
    have h2 : s.cfg.stageNum = 1 + _ := (C15_stage_num_matches n (.start Outcome.good :: reports 2 rcs)).1
    have : (acceptedStages (init n) (.start Outcome.good :: reports 2 rcs)).length = n := by omega
    rw [this] at h1
    exact h1

/-! ## 9. Non-vacuity: concrete runs evaluated by the kernel -/

private def good : Outcome := Outcome.good

/-- a 3-stage pipeline with a duplicate (`2` again) and an out-of-order call (`4` too early) in between -/
private def demo : List Op :=
  [.start good, .next 2 0 good, .next 2 1 good, .next 4 1 good, .next 3 1 good, .next 4 0 good]

example : (trace (init 3) demo).map (·.2.1) =
    [.ok, .ok, .invalidParam, .invalidParam, .ok, .ok] := by decide
example : acceptedStages (init 3) demo = [2, 3, 4] := by decide
example : (run (init 3) demo).submitted = [1, 2, 3] := by decide
example : (run (init 3) demo).cfg = { stageNum := 4, isComplete := true, returnCodes := [some 0, some 1, some 0] } := by
  decide
/-- before the last report the pipeline is not complete -/
example : (run (init 3) (demo.take 5)).cfg = { stageNum := 3, isComplete := false, returnCodes := [some 0, some 1, none] } := by
  decide
/-- after completion: `n + 2` dies with IndexError, everything else is InvalidParameter / "directory exists" -/
example : (trace (run (init 3) demo) [.next 5 0 good, .next 4 0 good, .next 2 0 good, .start good]).map (·.2.1) =
    [.indexError, .invalidParam, .invalidParam, .dirExists] := by decide
/-- `run_submit_jobs` fails for stage 2 and the auto-config fails for stage 3: the state has advanced all the same, the
    retries are refused, stage 3 is never handed over, and the pipeline still completes -/
example : (trace (init 3) [.start good, .next 2 0 { cfgOk := true, ret := 1 }, .next 2 0 good,
      .next 3 5 { cfgOk := false, ret := 0 }, .next 3 5 good, .next 4 7 good]).map (fun x => (x.2.1, x.2.2.cfg.stageNum, x.2.2.submitted)) =
    [(.ok, 1, [1]), (.execError, 2, [1, 2]), (.invalidParam, 2, [1, 2]), (.execError, 3, [1, 2]),
     (.invalidParam, 3, [1, 2]), (.ok, 4, [1, 2])] := by decide
/-- before `jade pipeline submit` nothing is accepted -/
example : (step (init 2) (.next 2 0 good)) = (init 2, .noPipeline) := by decide
/-- API-level hazard (not reachable from the CLI, whose `--return-code` is required): `submit_next_stage(1)` without a
    return code on a running pipeline hands the CURRENT stage to `run_submit_jobs` a second time -/
example : (rawCall (run (init 3) [.start good, .next 2 0 good]) 1 none good).1.submitted = [1, 2, 2] := by decide
example : (rawCall (run (init 3) [.start good, .next 2 0 good]) 2 none good).2 = .assertion := by decide
/-- the completion tail of stage 2 with status 1 -/
example : completionActions (some 2) 1 "/p" =
    [.markComplete, .runCmd "jade pipeline submit-next-stage /p --stage-num=3 --return-code=1" 3 1] := by decide
example : completionActions none 0 "/p" = [.markComplete] := by decide

end Jade.C15
