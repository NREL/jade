import JadeModel.Proofs.Results

/-!
# C08 — results are collected exactly once under concurrent writers

Property theorems only.  `reach ops` is the state of `Model/Results.lean` after an *arbitrary*
list of operations (any number of appending runners, batches, rows, collecting / cancelling
submitter rounds, every interleaving at lock-operation and file-mutation granularity; a step
whose lock is taken is a stutter).  All statements are invariants proved by induction over `ops`.

`Jade.Gen.Results` (statement order of `_move_results`, `+=` in `_process_results`, which entry
points take the lock, header test, open modes, glob pattern, field list) is regenerated from the
working tree on every run; `C08_code_shape` lists what the proofs use of it.
-/

namespace Jade.C08
open Jade.Results Jade.Gen.Results

variable {ρ : Type}

/-- the state reached by `ops` from the initial one: no node file; the consolidated file created
    with its header (`created = true`, the normal flow) or not existing yet (`created = false`:
    the first submitter failed before `ResultsAggregator.create`) -/
abbrev reach (ops : List (Op ρ)) (created : Bool := true) : State ρ (List ρ) :=
  run (absOps ρ) (init (absOps ρ) created) ops

/-- the byte-level state reached by the same operations -/
abbrev reachBytes (ops : List (Op Row)) (created : Bool := true) : State Row (List Char) :=
  run byteOps (init byteOps created) ops

theorem reach_good (ops : List (Op ρ)) (created : Bool) : Good (reach ops created) :=
  good_run (good_init created) ops

/-! ## 0. What the proofs use of the source (regenerated on every run) -/

theorem C08_code_shape :
    moveOrder = [.read, .append, .remove] ∧ processAccumulates = true ∧
    processUnderLock = true ∧ moveUnderLock = true ∧ appendUnderLock = true ∧
    getResultsUnderLock = true ∧ createUnderLock = true ∧ releaseInFinally = true ∧
    appendTruncates = false ∧ processedTruncates = false ∧
    (∀ pos, headerCond pos = (pos == 0)) ∧
    headerWrites = [.header, .nl] ∧ rowWrites = [.text, .nl] ∧ createWrites = [.header, .nl] ∧
    (∀ pos, processedHeaderCond pos = (pos == 0)) ∧ processedHeaderWrites = [.header, .nl] ∧
    resultFields = [.name, .returnCode, .status, .execTime, .completionTime, .hpcJobId] ∧
    delimiter = ',' ∧ globVisible = true ∧
    runnerAppendsToNodeFile = true ∧ cancelToConsolidated = true ∧
    consIsNode = false ∧ nodeIsNode = true ∧ parseShapeOk = true := by
  refine ⟨rfl, rfl, rfl, rfl, rfl, rfl, rfl, rfl, rfl, rfl, fun _ => rfl, rfl, rfl, rfl, fun _ => rfl, rfl, rfl, rfl,
    ?_, rfl, rfl, rfl, rfl, rfl⟩
  decide

/-- a lock marker (`<file>.lock`) is never taken for a node result file by the glob, and the
    consolidated file's name is not a node file name -/
theorem C08_lock_files_not_collected :
    globSuffix.isSuffixOf (nodeSuffix ++ lockSuffix) = false ∧
    globPrefix.isPrefixOf consName = false ∧ lockSuffix ≠ [] := by decide

/-! ## 1. Lock discipline is an invariant of the model -/

/-- At most one process is inside a section of the consolidated lock, it is the recorded holder;
    a node-file lock is held exactly by the collector that is inside `_move_results` of that file
    (so by at most one), and only while it also holds the consolidated lock. -/
theorem C08_lock_discipline (ops : List (Op ρ)) (created : Bool) :
    let s := reach ops created
    (∀ p q : Pid, s.coll p ≠ .idle → s.coll q ≠ .idle → p = q) ∧
    (∀ p : Pid, s.consLock = some p ↔ s.coll p ≠ .idle) ∧
    (∀ (b : BatchId) (p : Pid), s.nodeLock b = some p ↔
        ∃ rest acc buf pc, s.coll p = .moving b rest acc buf pc) ∧
    (∀ (b c : BatchId) (p : Pid), s.nodeLock b = some p → s.nodeLock c = some p → b = c) ∧
    (∀ (b : BatchId) (p : Pid), s.nodeLock b = some p → s.consLock = some p) := by
  have h := reach_good ops created
  exact ⟨fun _ _ => h.excl.unique, h.cons_lock, h.node_lock, fun _ _ _ => h.nodeLock_unique,
    fun _ _ => h.consLock_of_nodeLock⟩

/-- An operation that needs a lock which is taken is a stutter: a runner cannot append to a node
    file while a collector is inside `_move_results` of it, and no second collection or cancellation
    starts while one collection is in progress. -/
theorem C08_blocked_is_stutter (s : State ρ (List ρ)) :
    (∀ (w : Wid) (b : BatchId) (r : ρ), (s.nodeLock b).isSome →
        step (absOps ρ) s (.append w b r) = s) ∧
    (∀ (p : Pid) (snap : List BatchId), s.consLock.isSome → step (absOps ρ) s (.beginCollect p snap) = s) ∧
    (∀ (p : Pid) (r : ρ), s.consLock.isSome → step (absOps ρ) s (.cancelAppend p r) = s) := by
  refine ⟨fun w b r hl => ?_, fun p snap hl => ?_, fun p r hl => ?_⟩
  · simp [step, doAppend_eq, Option.isSome_iff_ne_none.1 hl]
  · simp only [step, doBegin_eq, Option.isSome_iff_ne_none.1 hl, false_and, if_false]
    split <;> rfl
  · simp only [step, doCancel_eq, Option.isSome_iff_ne_none.1 hl, if_false]
    split <;> rfl

/-- A collector is never kept waiting by a node-file lock: whenever it is between files with a file
    left in its snapshot, that file's lock is free and the file exists (so `lockFile` is not a
    stutter and cannot hit `FileNotFoundError`). -/
theorem C08_collector_never_blocked (ops : List (Op ρ)) (created : Bool) (p : Pid) (b : BatchId)
    (rest : List BatchId) (acc : List ρ) :
    let s := reach ops created
    s.coll p = .collecting (b :: rest) acc → s.nodeLock b = none ∧ (s.node b).isSome :=
  (reach_good ops created).never_blocked

/-! ## 2. Conservation: no row is lost or duplicated -/

/-- At every reachable state the rows ever written (by runners or by cancellation) are, as a
    multiset, exactly the rows in the consolidated file plus the rows in the node files — except
    for the rows of the one file a collector has just copied and not yet removed (`dup`), which
    are in both places while that file's lock is held. -/
theorem C08_conservation (ops : List (Op ρ)) (created : Bool) :
    let s := reach ops created
    (writtenRows s ++ canceledRows s ++ (active s).dup).Perm (consRows s ++ nodeRows s) ∧
    ((∀ b : BatchId, s.nodeLock b = none) →
      (writtenRows s ++ canceledRows s).Perm (consRows s ++ nodeRows s)) ∧
    (active s).inFlight = [] := by
  have h := reach_good ops created
  exact ⟨h.conserve, fun hfree => by simpa [h.dup_nil hfree] using h.conserve, h.inFlight_nil⟩

/-- No row is ever in no file: the source is removed only after the copy. -/
theorem C08_no_loss (ops : List (Op ρ)) (created : Bool) (r : ρ) :
    let s := reach ops created
    r ∈ writtenRows s ++ canceledRows s → r ∈ consRows s ++ nodeRows s :=
  fun hr => (reach_good ops created).conserve.mem_iff.1 (List.mem_append_left _ hr)

/-! ## 3. Every row is reported to exactly one submitter round -/

/-- rows in node files that no collection has copied yet -/
def pending (s : State ρ (List ρ)) : List ρ :=
  match active s with
  | .moving b _ _ _ pc =>
    if copied pc && !removed pc then (s.dir.erase b).flatMap (fun c => (s.node c).getD [])
    else nodeRows s
  | _ => nodeRows s

theorem nodeRows_pending {s : State ρ (List ρ)} (h : Good s) : (nodeRows s).Perm ((active s).dup ++ pending s) := by
  unfold pending
  cases ha : active s with
  | moving b rest acc buf pc =>
    obtain ⟨p, hp⟩ := active_moving ha
    have hnode := (h.moving_ok p b rest acc buf pc hp).2.2.1
    simp only [Coll.dup]
    split
    · simpa [nodeRows, hnode] using
        flatMap_erase_perm (fun c => (s.node c).getD []) ((h.dir_iff b).2 (by simp [hnode]))
    · simp
  | _ => simp [Coll.dup]

theorem written_perm {s : State ρ (List ρ)} (h : Good s) :
    (writtenRows s).Perm (returnedRows s ++ (active s).held ++ pending s) := by
  have h1 := h.conserve
  have h2 := h.consolidated
  have h3 := h.reported
  have h4 := nodeRows_pending h
  by_count

/-- (i) The consolidated file is exactly the cancel-appended rows plus the rows moved in by
    collections.  (ii) The rows moved in by collections are exactly the concatenation of the return
    values of the finished `process_results()` calls plus the rows the collection in progress will
    return.  (iii) Hence every row written by a runner is, exactly once, in the return value of one
    finished collection, or held by the collection in progress, or still pending in a node file. -/
theorem C08_reported_once (ops : List (Op ρ)) (created : Bool) :
    let s := reach ops created
    (consRows s).Perm (canceledRows s ++ movedRows s) ∧
    (movedRows s).Perm (returnedRows s ++ (active s).held) ∧
    (writtenRows s).Perm (returnedRows s ++ (active s).held ++ pending s) :=
  let h := reach_good ops created
  ⟨h.consolidated, h.reported, written_perm h⟩

/-- The collection of a node file never fails: the file cannot vanish between the glob and the
    move (`FileNotFoundError` is unreachable), so no `process_results()` call raises and loses the
    rows it has already moved. -/
theorem C08_no_collector_raises (ops : List (Op ρ)) (created : Bool) :
    ∀ x ∈ (reach ops created).returned, x.2 ≠ .raised :=
  (reach_good ops created).no_raise

/-! ## 4. Rows are moved verbatim and stay with their batch -/

theorem C08_no_misattribution (ops : List (Op ρ)) (created : Bool) :
    let s := reach ops created
    (∀ (b : BatchId) (f : List ρ) (r : ρ), s.node b = some f → r ∈ f → ∃ w, (w, b, r) ∈ s.written) ∧
    (∀ x ∈ s.moved, ∀ r ∈ x.2.2, ∃ w, (w, x.2.1, r) ∈ s.written) ∧
    (∀ r ∈ consRows s, r ∈ canceledRows s ∨ ∃ w b, (w, b, r) ∈ s.written) ∧
    (∀ r ∈ returnedRows s, ∃ w b, (w, b, r) ∈ s.written) := by
  have h := reach_good ops created
  exact ⟨h.attributed, h.moved_attr, fun _ => h.cons_from, fun _ => h.returned_from⟩

/-! ## 5. Byte level: the files always parse, header exactly once -/

theorem C08_parse_render (rows : List Row) (h : ∀ r ∈ rows, r.Legal) :
    parseFile (renderFile rows) = .ok rows :=
  parse_render rows h

/-- The header is emitted iff the file is absent (or empty), for BOTH kinds of file:
    `_append_result` on a node file (also when it is re-created after a collection removed it) or on
    the consolidated file (cancellation), and `_append_processed_results` on the consolidated file
    (when the first submitter failed before creating it). -/
theorem C08_header_iff_absent (rows more : List Row) (r : Row) :
    byteOps.appendRow none r = renderFile [r] ∧
    byteOps.appendRow (some []) r = renderFile [r] ∧
    byteOps.appendRow (some (renderFile rows)) r = renderFile (rows ++ [r]) ∧
    byteOps.appendRows none more = renderFile more ∧
    byteOps.appendRows (some []) more = renderFile more ∧
    byteOps.appendRows (some (renderFile rows)) more = renderFile (rows ++ more) ∧
    byteOps.create = renderFile [] :=
  -- an empty file is opened like an absent one (`openedBytes`); the rest unfolds `absOps`
  ⟨byte_appendRow none r, byte_appendRow none r, byte_appendRow (some rows) r, byte_appendRows none more,
    byte_appendRows none more, byte_appendRows (some rows) more, byte_create⟩

/-- For every interleaving of operations with legal rows, from either initial state, the bytes of
    every file are `renderFile` of the rows the row-level model holds for it (and a file is absent
    at the byte level iff it is absent at the row level). -/
theorem C08_bytes_refine (ops : List (Op Row)) (created : Bool) (hops : ∀ op ∈ ops, op.Legal) :
    reachBytes ops created = renderState (reach ops created) := by
  have := render_run (good_init created) (rowsOk_init created) ops hops
  rwa [render_init] at this

/-- … so the consolidated file and every node file parse at every instant, to exactly those rows. -/
theorem C08_files_parse (ops : List (Op Row)) (created : Bool) (hops : ∀ op ∈ ops, op.Legal) :
    (reachBytes ops created).cons = ((reach ops created).cons).map renderFile ∧
    (∀ t, (reachBytes ops created).cons = some t → parseFile t = .ok (consRows (reach ops created))) ∧
    ∀ b : BatchId, (reachBytes ops created).node b = ((reach ops created).node b).map renderFile ∧
      ∀ f, (reach ops created).node b = some f → parseFile (renderFile f) = .ok f := by
  rw [C08_bytes_refine ops created hops]
  have hl := rowsOk_run (good_init created) (rowsOk_init created) ops (fun op h => (hops op h).rowsIn)
  refine ⟨rfl, fun t ht => ?_, fun b => ⟨rfl, fun f hf => parse_render f (hl.node b f hf)⟩⟩
  have hp := parse_render _ hl.cons
  cases hc : (reach ops created).cons with
  | none => simp [renderState, hc] at ht
  | some rows =>
    obtain rfl : renderFile rows = t := by simpa [renderState, hc] using ht
    simpa [consRows, hc] using hp

/-! ## 6. Final state -/

/-- When no node file exists and no collection is in progress, the consolidated file holds every
    row ever written, each once, and every runner-written row has been returned by exactly one
    finished `process_results()` call. -/
theorem C08_final (ops : List (Op ρ)) (created : Bool) :
    let s := reach ops created
    (∀ b : BatchId, s.node b = none) → s.consLock = none →
      (consRows s).Perm (writtenRows s ++ canceledRows s) ∧ (writtenRows s).Perm (returnedRows s) := by
  intro s hnone hl
  have h : Good s := reach_good ops created
  have hdir : s.dir = [] := List.eq_nil_iff_forall_not_mem.2 fun b hb => (h.dir_iff b).1 hb (hnone b)
  have ha : active s = .idle := by simp [active, hl]
  have h1 := h.conserve
  have h2 := written_perm h
  simp only [ha, pending, Coll.dup, Coll.held, nodeRows, hdir, List.flatMap_nil, List.append_nil] at h1 h2
  exact ⟨h1.symm, h2⟩

/-! ## 7. Non-vacuity: concrete interleavings (rows are numbers) -/

/-- two runners (0 on batch 1, 1 on batch 2), two collectors (0, 1); runner 0 races collector 0 on
    batch 1 (one append lands before the lock, one is blocked by it, one re-creates the file after
    its removal); collector 1 is blocked until collector 0 ends, then picks up the re-created file. -/
def demo : List (Op Nat) :=
  [.append 0 1 10, .beginCollect 0 [1], .append 0 1 11, .lockFile 0, .append 0 1 12, .moveStep 0,
   .append 1 2 20, .beginCollect 1 [1, 2], .moveStep 0, .append 0 1 13, .cancelAppend 1 99, .endCollect 0,
   .beginCollect 1 [2, 1], .cancelAppend 0 77, .lockFile 1, .moveStep 1, .moveStep 1, .lockFile 1, .moveStep 1,
   .moveStep 1, .endCollect 1, .cancelAppend 0 77]

example : (reach demo).cons = some [10, 11, 20, 13, 77] := by decide
/-- the same when the consolidated file did not exist at the start: the first move creates it -/
example : (reach demo false).cons = some [10, 11, 20, 13, 77] ∧ (reach (demo.take 5) false).cons = none := by decide
example : (reach demo).returned = [(0, .rows [10, 11]), (1, .rows [20, 13])] := by decide
example : (reach demo).dir = [] ∧ (reach demo).consLock = none := by decide
example : writtenRows (reach demo) = [10, 11, 20, 13] := by decide
/-- mid-way: the copied-but-not-yet-removed file is in both places -/
example : (active (reach (demo.take 7))).dup = [10, 11] ∧ (reach (demo.take 7)).cons = some [10, 11] ∧
    (reach (demo.take 7)).node 1 = some [10, 11] := by decide
/-- the file re-created after its removal starts afresh -/
example : (reach (demo.take 10)).node 1 = some [13] ∧ (reach (demo.take 10)).dir = [2, 1] := by decide
/-- byte level: the re-created node file carries its own header, the consolidated file has one -/
def row (n : Nat) : Row :=
  ⟨['j', Char.ofNat (48 + n)], ['0'], ['f'], ['1', '.', '5'], ['2', '.', '5'], ['N', 'o', 'n', 'e']⟩
def demoBytes : List (Op Row) :=
  [.append 0 1 (row 1), .beginCollect 0 [1], .lockFile 0, .moveStep 0, .moveStep 0, .append 0 1 (row 2),
   .endCollect 0]
example : (reachBytes demoBytes).node 1 = some (renderFile [row 2]) ∧
    (reachBytes demoBytes).cons = some (renderFile [row 1]) := by decide
/-- … also when the consolidated file is created by the move itself (header, then the row) -/
example : (reachBytes demoBytes false).cons = some (renderFile [row 1]) ∧
    (reachBytes (demoBytes.take 3) false).cons = none := by decide


/-- What the code does when a node file vanishes between the glob and the move (unreachable in
    the model — `C08_no_collector_raises`, `C08_collector_never_blocked` — it needs an actor outside
    it): `FileNotFoundError` leaves `process_results`, both locks are released by the `finally`s, and
    the rows this call had already moved (here `7`) are in the consolidated file but returned to
    no round. -/
def vanished : State Nat (List Nat) :=
  { init (absOps Nat) with
    cons := some [7], consLock := some 0, written := [(0, 4, 7)], moved := [(0, 4, [7])],
    coll := fun p => if p = 0 then .collecting [5] [7] else .idle }

example : (step (absOps Nat) vanished (.lockFile 0)).returned = [(0, .raised)] ∧
    (step (absOps Nat) vanished (.lockFile 0)).consLock = none ∧
    (step (absOps Nat) vanished (.lockFile 0)).cons = some [7] ∧
    returnedRows (step (absOps Nat) vanished (.lockFile 0)) = [] := by decide

end Jade.C08
