import JadeModel.Proofs.Config

/-!
# C17 — configurations round-trip losslessly; invalid ones are rejected up front

Property theorems only.  The model is `Jade.Config` (`Model/Config.lean`); its tables, defaults,
decision predicates and statement orders are `Jade.Gen.Config`, regenerated from the working tree of
NREL/jade on every run.  Strings, job lists, group lists and JSON trees are unbounded.

Reading guide
* a *file* is a JSON tree `J` (the `json` library itself and pydantic's type coercions are outside);
* `encodeJob`/`encodeConfig` = `GenericCommandParametersModel.dict()` / `JobConfiguration.serialize()`;
  `serialize` adds the `assert job_id is not None` of `GenericCommandParameters.serialize`;
* `decodeJob`/`decodeConfig` = `_deserialize_jobs` entry / `create_config_from_file`;
* `construct` = building through the public API (`add_job` per job);
* `runChecks` = `JobSubmitter.run_checks`; `runCreate`/`runSubmit` = `JobSubmitter.create` /
  `JobSubmitter.run_submit_jobs` as straight-line programs over the generated statement lists.
-/

namespace Jade.C17
open Jade.Config Jade.Gen.Config

/-! ## 1. Round trip -/

/-- One job: what `dict()` writes (defaults of the popped fields elided), read back by the loader,
    is the same job — name (`None` stays `None`, so the defaulted name stays `str(job_id)`), id,
    command, blockers, flags, estimate, group, `ext`. -/
theorem decode_encode_job (j : Job) (h : NormalJob j) : decodeJob (encodeJob j) = .ok j :=
  decodeJob_encode j h

/-- A whole configuration in normal form: same jobs in the same order, same groups, same four
    lifecycle commands. -/
theorem decode_encode_config (c : Config) (h : Normal c) : decodeConfig (encodeConfig c) = .ok c :=
  decodeConfig_encode c h

/-- `dump` then `create_config_from_file`, with the assertion inside `serialize()`. -/
theorem dump_load_roundtrip (c : Config) (h : Normal c) :
    (serialize c >>= decodeConfig) = .ok c := by
  simp only [serialize_stored c h.1, decodeConfig_encode c h, bind, Except.bind]

/-- The normal form is what the loader always produces (for *any* JSON tree it accepts) … -/
theorem decode_normalises (t : J) (c : Config) (h : decodeConfig t = .ok c) : Normal c :=
  decodeConfig_normal t c h

/-- … and what the public constructor + `add_job` always produce. -/
theorem construct_normalises (c c' : Config)
    (hk : ∀ j ∈ c.jobs, ∃ kw, decodeFields kw = .ok j) (h : construct c = .ok c') : Normal c' := by
  obtain ⟨rfl, hs⟩ := (construct_ok_iff c c').1 h
  exact ⟨hs, withIds_normal _ _ fun j hj => (hk j hj).elim fun kw => decodeFields_normal kw j⟩

/-- So: build through the public API, write, load — nothing changes. -/
theorem public_roundtrip (c c' : Config)
    (hk : ∀ j ∈ c.jobs, ∃ kw, decodeFields kw = .ok j) (h : construct c = .ok c') :
    (serialize c' >>= decodeConfig) = .ok c' :=
  dump_load_roundtrip c' (construct_normalises c c' hk h)

/-- The normal form of the blockers depends only on the *set* (order and repetitions in the
    constructor argument or in the file do not matter) and keeps exactly its members. -/
theorem blockers_order_insensitive (l l' : List String) (h : ∀ z, z ∈ l ↔ z ∈ l') :
    canonSet l = canonSet l' := canonSet_ext l l' h

theorem blockers_members (l : List String) (z : String) : z ∈ canonSet l ↔ z ∈ l := mem_canonSet z l

/-- The `name` property: the given name, else `str(job_id)`. -/
theorem name_defaults_to_job_id (j : Job) :
    j.name = match j.name?, j.jobId with
             | some n, _ => n
             | none, some i => toString i
             | none, none => "None" := by
  unfold Job.name
  cases j.name? <;> cases j.jobId <;> simp [nameUnset, pyStrOptNat]

/-- Blockers are stored as strings (an integer blocker `7` refers to the job named `"7"`). -/
theorem blockers_are_strings : blockedByStringified = true ∧ nameDefaultIsJobId = true := by decide

/-- Keys every written job carries explicitly (only the five listed fields are ever elided, and
    only at their default). -/
theorem explicit_keys (j : Job) (k : String)
    (hk : k ∈ ["name", "command", "blocked_by", "cancel_on_blocking_job_failure",
               "estimated_run_minutes", "submission_group", "job_id", "extension"]) :
    ∃ v, j.fieldValue k = some v ∧
      (match encodeJob j with
       | .obj kvs => kvs.lookup k
       | _ => none) = some v := by
  have hl : ∃ d v, jobFields.lookup k = some d ∧ j.fieldValue k = some v ∧ k ∉ poppedFields := by
    simp only [List.mem_cons, List.not_mem_nil, or_false] at hk
    rcases hk with rfl | rfl | rfl | rfl | rfl | rfl | rfl | rfl <;>
      exact ⟨_, _, rfl, rfl, by decide⟩
  obtain ⟨d, v, hd, hv, hp⟩ := hl
  exact ⟨v, hv, (lookup_encode j k d v hd hv).trans (if_neg fun h => hp ((popped_iff k v d).1 h).1)⟩

/-- Elision is exactly "popped field at its default". -/
theorem elided_iff_default (j : Job) (k : String) (d : PyVal) (v : J)
    (hd : jobFields.lookup k = some d) (hv : j.fieldValue k = some v) :
    (match encodeJob j with
     | .obj kvs => kvs.lookup k
     | _ => none) = none ↔ (k ∈ poppedFields ∧ pyValJ d = some v) := by
  rw [← popped_iff]
  show (jobFields.filterMap (encodeField j)).lookup k = none ↔ _
  rw [lookup_encode j k d v hd hv]
  split <;> simp_all

/-! ## 2. `run_checks` accepts exactly the valid configurations -/

/-- `run_checks` succeeds exactly on the configurations that satisfy the declarative conjunction
    (≥ 1 group, unique group names, same `hpc_type`/`max_nodes`/`poll_interval`, every job's group
    defined, estimates present where `per_node_batch_size == 0`, blockers exist, wall times parse,
    estimates fit) — *both* directions, for every configuration. -/
theorem runChecks_iff_checksValid (c : Config) : runChecks c = .ok () ↔ ChecksValid c :=
  runChecks_ok_iff c

/-- For a stored configuration (`add_job` has already enforced unique names and non-empty commands)
    `run_checks` decides `Valid`. -/
theorem runChecks_iff_valid (c : Config) (hs : Stored c.jobs) : runChecks c = .ok () ↔ Valid c := by
  rw [runChecks_ok_iff, Valid, and_iff_right hs]

/-- End to end: jobs handed to `add_job` one by one, then `run_checks`: accepted iff valid
    (names after id assignment unique, commands non-empty, and all of the above). -/
theorem accepted_iff_valid (c : Config) :
    (∃ c', construct c = .ok c' ∧ runChecks c' = .ok ()) ↔
      Valid { c with jobs := withIds c.jobs firstJobId } := by
  simp only [construct_ok_iff, runChecks_ok_iff, Valid]
  constructor
  · rintro ⟨_, ⟨rfl, hs⟩, hv⟩; exact ⟨hs, hv⟩
  · rintro ⟨hs, hv⟩; exact ⟨_, ⟨rfl, hs⟩, hv⟩

/-- What the loader accepts is stored, hence `run_checks` decides `Valid` for every loaded file. -/
theorem loaded_runChecks_iff_valid (t : J) (c : Config) (h : decodeConfig t = .ok c) :
    runChecks c = .ok () ↔ Valid c :=
  runChecks_iff_valid c (decodeConfig_normal t c h).1

/-! ### degenerate inputs the code treats differently -/

/-- No submission group at all: `next(iter(self.submission_groups))` raises StopIteration — an
    error, but not InvalidConfiguration. -/
theorem no_groups_stopIteration (c : Config) (h : c.groups = []) :
    runChecks c = .error .stopIteration := by
  rw [runChecks_eq]; simp [checkSubmissionGroups, h]

/-- A wall time the regex does not match fails the `assert` of `_to_timedelta` (AssertionError) —
    after the three earlier checks, whatever the jobs are. -/
theorem unparsable_walltime_assertion (c : Config)
    (h1 : checkSubmissionGroups c = .ok ()) (h2 : checkEstimatesLoop c c.groups = .ok ())
    (h3 : checkDependencies c = .ok ()) (g : Group) (hg : g ∈ c.groups) (hw : wallOf g = none) :
    runChecks c = .error (.err .assertion) := by
  obtain ⟨-, hn, -, hj⟩ := (checkSubmissionGroups_ok_iff c).1 h1
  rw [runChecks_eq, h1, h2, h3]
  exact (checkRuntimes_eq c hn hj).trans (if_neg fun h => by simpa [hw] using h g hg)

/-- With at least one group and parsable wall times every rejection is InvalidConfiguration. -/
theorem rejection_is_invalidConfiguration (c : Config) (hg : c.groups ≠ [])
    (hw : ∀ g ∈ c.groups, (wallOf g).isSome = true) (e : Rej) (h : runChecks c = .error e) :
    e.isInvalidConfig = true := by
  rw [runChecks_eq] at h
  cases h1 : checkSubmissionGroups c with
  | error e' =>
    rw [h1] at h
    cases h
    rcases checkSubmissionGroups_error c _ h1 with ⟨-, hn⟩ | ⟨rfl, -⟩ | ⟨rfl, -⟩ | ⟨p, -, rfl, -⟩ | ⟨rfl, -⟩
    · exact absurd hn hg
    all_goals rfl
  | ok u =>
    obtain ⟨-, hn, -, hj⟩ := (checkSubmissionGroups_ok_iff c).1 h1
    simp only [h1, checkEstimatesLoop_eq, checkDependencies_eq, checkRuntimes_eq c hn hj, if_pos hw] at h
    split_ifs at h <;> cases h <;> rfl

/-- Every invalid configuration (with ≥ 1 group and parsable wall times) is rejected with
    InvalidConfiguration; every valid one is accepted. -/
theorem invalid_rejected_valid_accepted (c : Config) (hg : c.groups ≠ [])
    (hw : ∀ g ∈ c.groups, (wallOf g).isSome = true) :
    (ChecksValid c → runChecks c = .ok ()) ∧
    (¬ ChecksValid c → ∃ w, runChecks c = .error (.invalid w)) := by
  refine ⟨(runChecks_ok_iff c).2, fun hv => ?_⟩
  cases hr : runChecks c with
  | ok u => exact absurd ((runChecks_ok_iff c).1 hr) hv
  | error e =>
    have := rejection_is_invalidConfiguration c hg hw e hr
    cases e with
    | invalid w => exact ⟨w, rfl⟩
    | err e => cases this
    | stopIteration => cases this

/-! ## 3. One theorem per class of invalidity, naming the error

The hypotheses say that the classes the code tests *earlier* are fine, so the named error is the
one the user sees. -/

/-- the parts of `ChecksValid`, in the code's order -/
def GroupsUniform (c : Config) : Prop :=
  ∀ g ∈ c.groups, ∀ f ∈ c.groups,
    g.hpc.type = f.hpc.type ∧ g.maxNodes = f.maxNodes ∧ g.pollInterval = f.pollInterval
def JobGroupsDefined (c : Config) : Prop := ∀ j ∈ c.jobs, j.group ∈ groupNames c
def EstimatesPresent (c : Config) : Prop :=
  ∀ g ∈ c.groups, g.perNodeBatchSize = 0 → ∀ j ∈ c.jobs, j.group = g.name → j.estMinutes.isSome = true
def BlockersExist (c : Config) : Prop := ∀ j ∈ c.jobs, ∀ b ∈ j.blockedBy, b ∈ jobNames c
def WalltimesParse (c : Config) : Prop := ∀ g ∈ c.groups, (wallOf g).isSome = true
def EstimatesFit (c : Config) : Prop := ∀ j ∈ c.jobs, ∀ g ∈ c.groups, g.name = j.group → Fits j g

theorem checksValid_iff (c : Config) :
    ChecksValid c ↔ c.groups ≠ [] ∧ (groupNames c).Nodup ∧ GroupsUniform c ∧ JobGroupsDefined c ∧
      EstimatesPresent c ∧ BlockersExist c ∧ WalltimesParse c ∧ EstimatesFit c := Iff.rfl

theorem groups_rejected (c : Config)
    (h : ¬(c.groups ≠ [] ∧ (groupNames c).Nodup ∧ GroupsUniform c ∧ JobGroupsDefined c)) :
    ∃ e, runChecks c = .error e ∧ checkSubmissionGroups c = .error e := by
  cases h1 : checkSubmissionGroups c with
  | ok u => exact absurd ((checkSubmissionGroups_ok_iff c).1 h1) h
  | error e => exact ⟨e, by rw [runChecks_eq, h1], rfl⟩

/-- a submission group name listed twice -/
theorem rejects_duplicate_group (c : Config) (hg : c.groups ≠ []) (hu : GroupsUniform c)
    (hd : ¬ (groupNames c).Nodup) : runChecks c = .error (.invalid .groupTwice) := by
  obtain ⟨e, he, h⟩ := groups_rejected c fun h => hd h.2.1
  rcases checkSubmissionGroups_error c e h with ⟨-, h⟩ | ⟨rfl, -⟩ | ⟨-, h⟩ | ⟨p, -, -, h⟩ | ⟨-, h, -⟩
  · exact absurd h hg
  · exact he
  · exact absurd (fun g hg f hf => (hu g hg f hf).1) h
  · exact absurd (fun g hg f hf => (hu g hg f hf).2) h
  · exact absurd h hd

/-- groups with different `hpc_type` -/
theorem rejects_hpc_type (c : Config) (hn : (groupNames c).Nodup)
    (hp : ∀ g ∈ c.groups, ∀ f ∈ c.groups, g.maxNodes = f.maxNodes ∧ g.pollInterval = f.pollInterval)
    (g f : Group) (hg : g ∈ c.groups) (hf : f ∈ c.groups) (hne : g.hpc.type ≠ f.hpc.type) :
    runChecks c = .error (.invalid .hpcType) := by
  obtain ⟨e, he, h⟩ := groups_rejected c fun h => hne (h.2.2.1 g hg f hf).1
  rcases checkSubmissionGroups_error c e h with ⟨-, h⟩ | ⟨-, h⟩ | ⟨rfl, -⟩ | ⟨p, -, -, h⟩ | ⟨-, -, h, -⟩
  · rw [h] at hg; cases hg
  · exact absurd hn h
  · exact he
  · exact absurd hp h
  · exact absurd (h g hg f hf).1 hne

/-- groups that differ in a `must_be_same` parameter (`max_nodes`, `poll_interval`) -/
theorem rejects_must_be_same (c : Config) (hn : (groupNames c).Nodup)
    (ht : ∀ g ∈ c.groups, ∀ f ∈ c.groups, g.hpc.type = f.hpc.type)
    (g f : Group) (hg : g ∈ c.groups) (hf : f ∈ c.groups)
    (hne : g.maxNodes ≠ f.maxNodes ∨ g.pollInterval ≠ f.pollInterval) :
    ∃ p ∈ mustBeSame, runChecks c = .error (.invalid (.mustBeSame p)) := by
  obtain ⟨e, he, h⟩ := groups_rejected c fun h => by have := h.2.2.1 g hg f hf; tauto
  rcases checkSubmissionGroups_error c e h with ⟨-, h⟩ | ⟨-, h⟩ | ⟨-, h⟩ | ⟨p, hp, rfl, -⟩ | ⟨-, -, h, -⟩
  · rw [h] at hg; cases hg
  · exact absurd hn h
  · exact absurd ht h
  · exact ⟨p, hp, he⟩
  · have := h g hg f hf; tauto

/-- a job whose submission group is not defined -/
theorem rejects_undefined_group (c : Config) (hg : c.groups ≠ []) (hn : (groupNames c).Nodup)
    (hu : GroupsUniform c) (j : Job) (hj : j ∈ c.jobs) (hne : j.group ∉ groupNames c) :
    runChecks c = .error (.invalid .jobGroup) := by
  obtain ⟨e, he, h⟩ := groups_rejected c fun h => hne (h.2.2.2 j hj)
  rcases checkSubmissionGroups_error c e h with ⟨-, h⟩ | ⟨-, h⟩ | ⟨-, h⟩ | ⟨p, -, -, h⟩ | ⟨rfl, -⟩
  · exact absurd h hg
  · exact absurd hn h
  · exact absurd (fun g hg f hf => (hu g hg f hf).1) h
  · exact absurd (fun g hg f hf => (hu g hg f hf).2) h
  · exact he

/-- a job without estimate in a group with `per_node_batch_size == 0` -/
theorem rejects_missing_estimate (c : Config) (h1 : checkSubmissionGroups c = .ok ())
    (hne : ¬ EstimatesPresent c) : runChecks c = .error (.invalid .estimateMissing) := by
  rw [runChecks_eq, h1]
  exact (checkEstimatesLoop_eq c c.groups).symm ▸ if_neg hne ▸ rfl

/-- a dependency on a job that does not exist -/
theorem rejects_missing_blocker (c : Config) (h1 : checkSubmissionGroups c = .ok ())
    (h2 : checkEstimatesLoop c c.groups = .ok ())
    (j : Job) (hj : j ∈ c.jobs) (b : String) (hb : b ∈ j.blockedBy) (hne : b ∉ jobNames c) :
    runChecks c = .error (.invalid .dependencies) := by
  rw [runChecks_eq, h1, h2, checkDependencies_eq, if_neg fun h => hne (h j hj b hb)]

/-- an estimated run time above the wall time of the job's group -/
theorem rejects_long_estimate (c : Config) (h1 : checkSubmissionGroups c = .ok ())
    (h2 : checkEstimatesLoop c c.groups = .ok ()) (h3 : checkDependencies c = .ok ())
    (hw : WalltimesParse c) (hne : ¬ EstimatesFit c) :
    runChecks c = .error (.invalid .runtime) := by
  obtain ⟨-, hn, -, hj⟩ := (checkSubmissionGroups_ok_iff c).1 h1
  rw [runChecks_eq, h1, h2, h3]
  exact (checkRuntimes_eq c hn hj).trans ((if_pos hw).trans (if_neg hne))

/-- the comparison, spelled out: `timedelta(minutes=m) > wall` in seconds; an unset wall time is
    `0xFFFFFFFF` s; otherwise hours·3600 + minutes·60 + seconds of the first `\d+:\d+:\d+`. -/
theorem fits_spelled_out (j : Job) (g : Group) (m w : Nat) (hm : j.estMinutes = some m)
    (hw : wallOf g = some w) : Fits j g ↔ 60 * m ≤ w := by
  rw [fits_iff j g w hw]; simp [hm]

theorem wall_unset (g : Group) (h : g.hpc = .local) : wallOf g = some 0xFFFFFFFF := by
  simp [wallOf, h, Hpc.walltime?, wallUnsetSeconds]

/-- `add_job` refuses an empty command (as the `command` *property* gives it) … -/
theorem rejects_empty_command (j : Job) (names : List String) (n : Nat)
    (h : (assignId j n).1.commandProp = "") :
    admitJob j names n = .error (.invalid .emptyCommand) := by
  rw [admitJob_eq, if_pos h]

/-- … and a name that is already stored (explicit or defaulted from the id). -/
theorem rejects_duplicate_name (j : Job) (names : List String) (n : Nat)
    (hc : (assignId j n).1.commandProp ≠ "") (h : (assignId j n).1.name ∈ names) :
    admitJob j names n = .error (.invalid .dupName) := by
  rw [admitJob_eq, if_neg hc, if_pos h]

/-- Both when building through the API and when loading a file, the only errors of adding jobs are
    these two, and success means: ids assigned in order, all commands non-empty, all names distinct. -/
theorem add_jobs_spec (js : List Job) (n : Nat) :
    (∀ out, addJobs js [] n = .ok out ↔ out = withIds js n ∧ Stored (withIds js n)) ∧
    (∀ e, addJobs js [] n = .error e → e = .invalid .emptyCommand ∨ e = .invalid .dupName) := by
  refine ⟨fun out => ?_, fun e => addJobs_error js [] n e⟩
  rw [addJobs_ok_iff, storedRel_nil]

/-- A *file* with duplicate names or an empty command is refused by the loader (its output is
    always `Stored`). -/
theorem loaded_is_stored (t : J) (c : Config) (h : decodeConfig t = .ok c) :
    (c.jobs.map Job.name).Nodup ∧ ∀ j ∈ c.jobs, j.commandProp ≠ "" ∧ j.jobId.isSome = true := by
  obtain ⟨⟨h1, h2⟩, -⟩ := decodeConfig_normal t c h
  exact ⟨h2, fun j hj => (h1 j hj).symm⟩

/-! ## 4. Rejection happens before anything is written or handed to the HPC -/

/-- `JobSubmitter.create`: a rejected configuration is not dumped. -/
theorem checks_before_dump (c : Config) (e : Rej) (h : runChecks c = .error e) :
    runCreate c = ([.initDirs], .error e) := by
  simp [runCreate, createSteps, runCreateSteps, h]

/-- `JobSubmitter.run_submit_jobs`: for a rejected configuration the only effects are the output
    directories; no `config.json`, no cluster files, `submit_jobs` (the only place where `sbatch`
    can be invoked) is never entered. -/
theorem checks_before_dump_and_sbatch (c : Config) (e : Rej) (h : runChecks c = .error e) :
    runSubmit c = ([.mkdirs, .initDirs], .error e) := by
  simp [runSubmit, runSubmitSteps, runSubmitSteps', checks_before_dump c e h]

theorem runCreate_ok (c : Config) (h : runChecks c = .ok ()) :
    runCreate c = ([.initDirs, .dumpConfig], .ok ()) := by
  simp [runCreate, createSteps, runCreateSteps, h]

/-- An accepted configuration with at least one job goes all the way, in this order. -/
theorem accepted_effects (c : Config) (h : runChecks c = .ok ()) (hj : c.jobs ≠ []) :
    runSubmit c = ([.mkdirs, .initDirs, .dumpConfig, .clusterCreate, .submitJobs, .demote], .ok ()) := by
  simp [runSubmit, runSubmitSteps, runSubmitSteps', runCreate_ok c h, hj]

/-- Degenerate: a configuration *without jobs* passes the checks; `submit_jobs` then fails on
    `next(iter(self.iter_jobs()))` (StopIteration) after the files were written. -/
theorem no_jobs_stopIteration (c : Config) (h : runChecks c = .ok ()) (hj : c.jobs = []) :
    runSubmit c = ([.mkdirs, .initDirs, .dumpConfig, .clusterCreate, .submitJobs, .demote],
                   .error .stopIteration) := by
  simp [runSubmit, runSubmitSteps, runSubmitSteps', runCreate_ok c h, hj]

/-! ## Non-vacuity: concrete instances -/

def gSlurm (name wall : String) (pnbs : Nat) : Group :=
  { name := name, hpc := .slurm wall, maxNodes := none, numProcesses := none, perNodeBatchSize := pnbs,
    pollInterval := 10, tryAddBlocked := true, timeBased := false, dryRun := false }

def job (name? : Option String) (id : Nat) (blockedBy : List String) (est : Option Nat)
    (group : String := "default") (command : String := "echo 1") : Job :=
  { name? := name?, jobId := some id, command := command, blockedBy := blockedBy, cancelFlag := false,
    estMinutes := est, group := group, appendJobName := false, appendOutputDir := false,
    useMultiNode := false, ext := [] }

/-- three jobs in two groups; the second is unnamed (its name is "2") and the third is blocked by it -/
def cfgOk : Config :=
  { jobs := [job (some "prep") 1 [] (some 240), job none 2 ["prep"] none,
             { job (some "post") 3 ["2", "prep"] (some 30) "short" with
               appendJobName := true, ext := [("k", .arr [.num 1, .null])] }],
    groups := [gSlurm "default" "4:00:00" 500, gSlurm "short" "00:30:00" 0],
    setup := some "echo hi", teardown := none, nodeSetup := none, nodeTeardown := some "bash t.sh" }

example : Normal cfgOk := by decide +kernel
example : decodeConfig (encodeConfig cfgOk) = .ok cfgOk := by decide +kernel
example : Valid cfgOk := by decide +kernel
example : runChecks cfgOk = .ok () := by decide +kernel
example : (cfgOk.jobs.map Job.name) = ["prep", "2", "post"] := by decide +kernel
-- the elided defaults: the first job is written with exactly these keys
example : (match encodeJob (job (some "prep") 1 [] (some 240)) with
           | .obj kvs => kvs.map Prod.fst
           | _ => []) =
    ["name", "command", "blocked_by", "cancel_on_blocking_job_failure", "estimated_run_minutes",
     "submission_group", "job_id", "extension"] := by decide +kernel
-- integer and string blockers, any order, repetitions: one canonical set
example : (asObj (.obj [("command", .str "x"), ("blocked_by", .arr [.num 2, .str "10", .str "2", .num 10])])
            >>= decodeFields).map (·.blockedBy) = .ok ["10", "2"] := by decide +kernel
-- boundary: 240 minutes fit 4:00:00 exactly, 241 do not
example : runChecks { cfgOk with jobs := [job none 1 [] (some 240)] } = .ok () := by decide +kernel
example : runChecks { cfgOk with jobs := [job none 1 [] (some 241)] } = .error (.invalid .runtime) := by decide +kernel
example : runChecks { cfgOk with jobs := [job none 1 ["7"] none] } = .error (.invalid .dependencies) := by decide +kernel
example : runChecks { cfgOk with jobs := [job none 1 [] none "short"] } = .error (.invalid .estimateMissing) := by
  decide +kernel
example : runChecks { cfgOk with jobs := [job none 1 [] none "nope"] } = .error (.invalid .jobGroup) := by decide +kernel
example : runChecks { cfgOk with groups := [gSlurm "default" "4:00:00" 500, gSlurm "default" "4:00:00" 500] }
    = .error (.invalid .groupTwice) := by decide +kernel
example : runChecks { cfgOk with groups := [gSlurm "default" "4:00:00" 500,
                                             { gSlurm "short" "1:00:00" 1 with hpc := .fake "1:00:00" }] }
    = .error (.invalid .hpcType) := by decide +kernel
example : runChecks { cfgOk with groups := [gSlurm "default" "4:00:00" 500,
                                             { gSlurm "short" "1:00:00" 1 with pollInterval := 30 }] }
    = .error (.invalid (.mustBeSame "poll_interval")) := by decide +kernel
example : runChecks { cfgOk with groups := [] } = .error .stopIteration := by decide +kernel
example : construct { cfgOk with jobs := [job (some "2") 7 [] none, { job none 0 [] none with jobId := none },
                                          { job none 0 [] none with jobId := none }] }
    = .error (.invalid .dupName) := by decide +kernel   -- ids 1, 2 are assigned: the third job is named "2"
example : construct { cfgOk with jobs := [job none 1 [] none "default" ""] }
    = .error (.invalid .emptyCommand) := by decide +kernel
example : (runSubmit { cfgOk with jobs := [job none 1 [] (some 241)] }).1 = [.mkdirs, .initDirs] := by decide +kernel
example : (runSubmit cfgOk).1 = [.mkdirs, .initDirs, .dumpConfig, .clusterCreate, .submitJobs, .demote] := by
  decide +kernel
-- `_to_timedelta` is a *search*: a SLURM "days-hours" wall time loses its days
example : searchWall "4:00:00".toList = some (4, 0, 0) := by decide +kernel
example : searchWall "2-12:30:00".toList = some (12, 30, 0) := by decide +kernel
example : searchWall "30:00".toList = none := by decide +kernel
-- outside the normal form: multi-node job with `append_output_dir = False` (reachable by attribute
-- assignment) comes back with `True`
example : decodeJob (encodeJob { job none 1 [] none with useMultiNode := true })
    = .ok { job none 1 [] none with useMultiNode := true, appendOutputDir := true } := by decide +kernel

end Jade.C17
