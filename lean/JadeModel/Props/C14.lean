import JadeModel.Proofs.SystemGen
import JadeModel.Proofs.SystemGate
import JadeModel.Proofs.SystemCap
import JadeModel.Proofs.SystemRows
import JadeModel.Props.C20
import JadeModel.Props.C01

/-!
# C14 — cancel is final

System theorems over all op sequences (all moments at which the user cancels, all later command
sequences; kills and failures included).  `markCanceled` is accepted only after cancel-jobs has
walked every persisted id (`scancel`), which the history replay checks of the real command.
The gate itself (`HpcSubmitter.run` skips the submit phase when the copy loaded at promotion says
canceled) is the `!x.loc.canceled` conjunct of the `sbatch` guard; every real `sbatch` event must
pass it in the replay.
-/

namespace Jade.C14
open Jade.Sys

variable (sc : Scn) (ops : List Op) (s : Sys)

/-- after the canceled flag is on disk no process can hand a batch to the HPC — neither cancel-jobs'
    own try-submit-jobs nor any later try-submit-jobs / show-status -/
theorem C14_no_sbatch_after_cancel (h : run (init sc) ops = some s) (hc : s.disk.canceled = true)
    (p : Pid) (jobs : List JobId) (hid : Option Hid) : step s (.sbatch p jobs hid) = none := by
  have hi := gateInv_run ops (gateInv_init sc) h
  -- the holder's copy of the flag is the disk's, and the guard of `sbatch` asks for it to be off
  have gate {x : SubP} (hp : s.procs p = .sub true x) (hpc : x.pc = .marked) : x.loc.canceled = true :=
    ((hi.flags p true x hp (by rw [hpc]; rfl)).2).trans hc
  refine step_eq_none fun s' hs => ?_
  cases hs with
  | sbatch hp hg | sbatchFailed hp hg => simp [gate hp hg.1] at hg

/-- in history form: no `sbatch` event ever happened while the canceled (or complete) flag was set -/
theorem C14_never_late (h : run (init sc) ops = some s) : s.lateSbatch = false :=
  (gateInv_run ops (gateInv_init sc) h).late

/-- the flag is never taken back (there is no resubmission inside one submission epoch) -/
theorem C14_canceled_sticky (s' : Sys) (more : List Op) (hc : s.disk.canceled = true)
    (hm : run s more = some s') (hg : GateInv s) : s'.disk.canceled = true :=
  (run_inv (P := fun t => GateInv t ∧ t.disk.canceled = true)
    (fun ht h => ⟨gateInv_step ht.1 h, canceledFlag_step ht.1 h ht.2⟩) more ⟨hg, hc⟩ hm).2

/-- when cancel-jobs marks the submission canceled, every batch that was queued or running has been
    asked to be canceled and none is active any more (unless a crashed round had wedged the
    submission before) -/
theorem C14_all_active_scancelled (h : run (init sc) ops = some s) (p : Pid) (s' : Sys)
    (hs : step s (.markCanceled p) = some s') : Orphan s ∨ ∀ k, activeB s' k = false := by
  have hcap := capInv_run ops (capInv_init sc) h
  cases step_sound hs with
  | markCanceled hp hg =>
    have hsub := hcap.node.batch.role.holder p true _ hp (by rw [hg.1]; rfl)
    refine (Classical.em (Orphan s)).imp_right fun ho k => ?_
    cases hk : activeB s k with
    | false => simpa [activeB] using hk
    | true =>
      rcases hcap.tracked k hk with ht | ho'
      · simp [trackedIds, holderSub, hsub, hp, hg.2.2] at ht
      · exact absurd ho' ho

/-- results recorded before the cancel are kept -/
theorem C14_rows_kept (s' : Sys) (more : List Op) (hm : run s more = some s') (r : Row) (hr : RowOnDisk s r) :
    RowOnDisk s' r :=
  rowOnDisk_run more hm r hr

/-- jobs that never ran are reported missing: the summary lists exactly the configured jobs without a row -/
theorem C14_missing_reported : type_of% @Jade.C20.tally_sum := @Jade.C20.tally_sum

/-! ## Non-vacuity: cancel after the first batch; the remaining job is never submitted -/

def cancelOps : List Op :=
  [.spawnSub 1 false, .promote 1, .passEnd 1 [], .collectDone 1, .mark 1, .sbatch 1 [0] (some 100),
   .persist 1, .unmark 1, .demote 1, .exit 1,
   .spawnSub 2 true, .promote 2, .scancel 2 100, .markCanceled 2, .demote 2, .exit 2,
   .spawnSub 3 false, .promote 3, .poll 3 [100], .passEnd 3 [], .collectDone 3, .mark 3]

example : ((run (init Jade.C01.demoScn) cancelOps).map fun s => (s.disk.canceled, activeCount s)) = some (true, 0) := by
  decide

example : (run (init Jade.C01.demoScn) (cancelOps ++ [.sbatch 3 [1] (some 101)])).isNone = true := by decide

end Jade.C14
