import JadeModel.Proofs.SystemLoss
import JadeModel.Props.C03
import JadeModel.Props.C04
import JadeModel.Props.C05
import JadeModel.Props.C20

/-!
# C12 — every job is accounted for when batches fail, are killed or time out

Faults are ordinary operations of the system model (`sbatch … none` = sbatch failed, `kill` of a node
process = node killed / walltime, `batchLost` = a pending batch vanishes), so every theorem quantified
over *all* op sequences covers every subset of failing batches and every kill point.

* nothing is fabricated: a finished row exists only for a job that was started and carries its exit code;
  a canceled row only for a flagged job with a failed/canceled blocker (`C12_no_fabricated_*`);
* rows of jobs that did finish are kept (`C12_finished_keep_results`);
* a job that waits for a job without outcome is never started (`C12_waiting_never_started`), whole
  stuck sets — dependency cycles in particular — never run (`C12_stuck_never`, `C12_cycle_never_runs`);
* a failed sbatch creates no active batch (`C12_failed_sbatch_not_active`), a dead node writes nothing
  (`C12_dead_node_silent`);
* once no batch is believed active a round decides "complete" (forced completion, `C12_completes_when_nothing_active`);
* the summary then lists as missing exactly the configured jobs without a row, and every configured job
  is counted in exactly one of successful/failed/canceled/missing (`C12_missing_exact`, component theorem
  about the real `_handle_completion` arithmetic).
-/

namespace Jade.C12
open Jade.Sys

theorem C12_no_fabricated_finished : type_of% @Jade.C03.C03_finished_row_real := @Jade.C03.C03_finished_row_real
theorem C12_no_fabricated_canceled : type_of% @Jade.C04.C04_canceled_row_justified := @Jade.C04.C04_canceled_row_justified
theorem C12_finished_keep_results : type_of% @Jade.Sys.rowOnDisk_run := @Jade.Sys.rowOnDisk_run

/-- a job one of whose configured blockers has no recorded outcome has not been started -/
theorem C12_waiting_never_started (sc : Scn) (ops : List Op) (s : Sys) (h : run (init sc) ops = some s)
    (j b : JobId) (hb : b ∈ sc.blockers j) (hmiss : ¬ HasRow s b) : j ∉ s.starts.map (·.1) := by
  intro hj
  have hsc : s.sc = sc := by rw [sc_run ops h]; rfl
  exact hmiss (startedOK_reach sc ops s h j hj b (by rw [hsc]; exact hb))

/-- no member of a stuck set (every member waits for a member; no member flagged) is ever started or
    given a row — whatever else happens -/
theorem C12_stuck_never (sc : Scn) (S : JobId → Prop) (hS : Stuck sc S) (ops : List Op) (s : Sys)
    (h : run (init sc) ops = some s) (j : JobId) (hj : S j) : j ∉ s.starts.map (·.1) ∧ ¬ HasRow s j :=
  stuck_never sc S hS ops s h j hj

/-- in particular the jobs of a dependency cycle block forever: they end up missing -/
theorem C12_cycle_never_runs (sc : Scn) (cyc : List JobId)
    (hc : ∀ j ∈ cyc, ∃ b ∈ sc.blockers j, b ∈ cyc) (hf : ∀ j ∈ cyc, sc.flag j = false)
    (ops : List Op) (s : Sys) (h : run (init sc) ops = some s) :
    ∀ j ∈ cyc, j ∉ s.starts.map (·.1) ∧ ¬ HasRow s j :=
  fun j hj => stuck_never sc (· ∈ cyc) ⟨hc, hf⟩ ops s h j hj

/-- a failed sbatch leaves the scheduler and the set of ids believed active untouched -/
theorem C12_failed_sbatch_not_active (s s' : Sys) (p : Pid) (jobs : List JobId) (x : SubP)
    (hx : getSub s p = some x) (h : step s (.sbatch p jobs none) = some s') :
    s'.slurm = s.slurm ∧ ∃ x', getSub s' p = some x' ∧ x'.out = x.out ∧ x'.pend = x.pend ++ jobs := by
  cases step_sound h with
  | sbatchFailed hp hg =>
    rw [getSub_eq hx] at hp; cases hp
    exact ⟨rfl, { x with pend := x.pend ++ jobs, bidx := x.bidx + 1 }, by simp [getSub, setSub, setProc], rfl, rfl⟩

/-- a node process that was killed starts nothing and writes nothing afterwards -/
theorem C12_dead_node_silent (s : Sys) (p : Pid) (n : NodeP) (hp : s.procs p = .node false n) (j : JobId) :
    step s (.nodeStart p j) = none ∧ step s (.nodeRow p j) = none ∧ step s (.nodeCancel p j) = none := by
  simp [step, getNode, hp]

/-- forced completion: a round that ends with no batch believed active decides "complete" -/
theorem C12_completes_when_nothing_active : type_of% @Jade.C05.C05_quiescent_round_progress := @Jade.C05.C05_quiescent_round_progress
theorem C12_decision : type_of% @Jade.C05.C05_decision := @Jade.C05.C05_decision

/-- the summary: missing = configured jobs without a row; the four counters partition the configuration -/
theorem C12_missing_exact : type_of% @Jade.C20.tally_sum := @Jade.C20.tally_sum

/-! ## Non-vacuity -/

/-- jobs 1 ⇄ 2 form a cycle, job 3 waits for job 0, all unflagged -/
def demoScn : Scn := { n := 4, blockers := fun j => if j = 1 then [2] else if j = 2 then [1] else if j = 3 then [0] else [],
                       flag := fun _ => false, rc := fun _ => 0, maxNodes := 2 }

example : Stuck demoScn (· ∈ [1, 2]) := by
  refine ⟨?_, fun _ _ => rfl⟩
  intro j hj
  simp only [List.mem_cons, List.mem_nil_iff, or_false] at hj
  rcases hj with rfl | rfl <;> simp [demoScn]

/-- batch 1 = [0] is accepted by sbatch but its node is killed before job 0 ran; the next round finds nothing
    active, decides complete; job 3 was never started and nothing was fabricated -/
def demoOps : List Op :=
  [.spawnSub 1 false, .promote 1, .passEnd 1 [], .collectDone 1, .mark 1, .sbatch 1 [0] (some 100),
   .persist 1, .unmark 1, .demote 1, .exit 1,
   .startBatch 100 2 1, .kill 2,
   .spawnSub 3 false, .promote 3, .poll 3 [100], .passEnd 3 [], .collectDone 3, .mark 3, .persist 3, .unmark 3,
   .summary 3, .flag 3, .demote 3]

example : ((run (init demoScn) demoOps).map fun s => (s.disk.complete, s.processed.length, s.starts.length, s.batches.length))
    = some (true, 0, 0, 1) := by decide

/-- the stuck jobs cannot be put into a batch at all (C07 guard: a blocked job needs its blockers along,
    and blockers must be unsubmitted — the cycle can go in together, but then neither can start) -/
example : ((run (init demoScn) ([.spawnSub 1 false, .promote 1, .passEnd 1 [], .collectDone 1, .mark 1,
    .sbatch 1 [1, 2] (some 100), .persist 1, .unmark 1, .demote 1, .exit 1, .startBatch 100 2 2, .nodeStart 2 1])).isNone)
    = true := by decide

end Jade.C12
