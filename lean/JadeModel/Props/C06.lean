import JadeModel.Proofs.SystemGen
import JadeModel.Proofs.SystemCap
import JadeModel.Proofs.SystemRows
import JadeModel.Props.Queue
import JadeModel.Props.C07
import JadeModel.Props.C01

/-!
# C06 — node and process concurrency limits are never exceeded

* HPC level: an invariant of the system model over **all** op sequences (all interleavings of batch
  start/finish with submitter rounds on any nodes; kills and failures included): the number of this
  submission's batches that are queued or running never exceeds `max_nodes`.  The only assumption
  about SLURM is the truthful-squeue rule built into `Op.poll`: a batch the scheduler still has is
  always listed (the *word* it prints is arbitrary — `C18_status_conservative`).
* Node level: the real `JobQueue` algorithm keeps at most `depth` live processes at every point of
  every op sequence (`Jade.QueueProps`), with `depth = min(#jobs, processes-per-node or CPU count)`.
-/

namespace Jade.C06
open Jade.Sys

/-- at every instant at most `max_nodes` batches of the submission are queued or running -/
theorem C06_hpc_cap (sc : Scn) (ops : List Op) (s : Sys) (h : run (init sc) ops = some s) :
    activeCount s ≤ sc.maxNodes := by
  have hi := capInv_run ops (capInv_init sc) h
  have hsc : s.sc = sc := by rw [sc_run ops h]; rfl
  rw [← hsc]
  exact hi.cap

/-- every active batch is known to whoever can submit next (the role holder's queue, or the
    persisted ids when nobody holds the role) — unless a crashed round wedged the submission -/
theorem C06_active_tracked (sc : Scn) (ops : List Op) (s : Sys) (h : run (init sc) ops = some s) (k : Hid)
    (hk : activeB s k = true) : k ∈ trackedIds s ∨ Orphan s :=
  (capInv_run ops (capInv_init sc) h).tracked k hk

/-- one round's submit phase never pushes the HPC-level queue beyond its depth (component level,
    the real `_submit_batches` loop) -/
theorem C06_submit_phase_respects_depth :
    type_of% @Jade.Batch.submitLoop_outstanding := @Jade.Batch.submitLoop_outstanding

/-! ## Node level -/

theorem C06_node_running_le_depth : type_of% @Jade.QueueProps.running_le_depth :=
  @Jade.QueueProps.running_le_depth

theorem C06_node_running_le_depth_during_check : type_of% @Jade.QueueProps.running_le_depth_during_check :=
  @Jade.QueueProps.running_le_depth_during_check

theorem C06_workers_eq_min : type_of% @Jade.QueueProps.workers_eq_min := @Jade.QueueProps.workers_eq_min

theorem C06_node_run_le_configured : type_of% @Jade.QueueProps.runNode_running_le_configured :=
  @Jade.QueueProps.runNode_running_le_configured

/-- in the abstract system model a node start is accepted only below the worker limit -/
theorem C06_node_start_guard (s s' : Sys) (p : Pid) (j : JobId) (h : step s (.nodeStart p j) = some s') :
    ∃ n, getNode s p = some n ∧ n.running.length < n.workers := by
  cases step_sound h with
  | nodeStart hp hg => exact ⟨_, (getNode_iff ..).2 hp, hg.2.2⟩

/-! ## Non-vacuity: with max_nodes = 1 the second batch is refused while the first is active -/

example : (run (init Jade.C01.demoScn)
    [.spawnSub 1 false, .promote 1, .passEnd 1 [], .collectDone 1, .mark 1, .sbatch 1 [0] (some 100),
     .sbatch 1 [1] (some 101)]).isNone = true := by decide

example : ((run (init Jade.C01.demoScn)
    [.spawnSub 1 false, .promote 1, .passEnd 1 [], .collectDone 1, .mark 1, .sbatch 1 [0] (some 100)]).map
      activeCount) = some 1 := by decide

end Jade.C06
