import JadeModel.Proofs.SystemGen
import JadeModel.Props.C01
import JadeModel.Props.C02

/-!
# C11 — a submitter that dies or errors mid-round cannot cause double submission

The system theorems of C01/C02 are proved over the *full* op alphabet of `Jade.Sys`: `kill p`
(SIGKILL / node loss at any boundary event of any process — the replay splits a lock section at the
file mutation where the process died: `persistCfg`/`persistJobs`, `collectCopy`, a promotion whose
file write happened), `fail p` (any exception: failed sbatch/squeue, lock timeout, failed write,
assertion) followed or not by the `finally: demote`.  The statements below are those theorems, named
for C11, plus the facts specific to crashes: results never lost, a crashed round wedges further
submission instead of repeating it.  Both lock-library behaviours are covered: whether a stale lock
marker is ever broken only decides which later events happen; every sequence is quantified over.
-/

namespace Jade.C11
open Jade.Sys

variable (sc : Scn) (ops : List Op) (s : Sys)

/-- no job is handed to the HPC twice — for histories with any kills / failures -/
theorem C11_no_double_submission (h : run (init sc) ops = some s) :
    (s.batches.flatMap (·.jobs)).Nodup ∧ (s.batches.map (·.bid)).Nodup :=
  ⟨Jade.C01.C01_job_in_at_most_one_batch sc ops s h, Jade.C01.C01_batch_ids_nodup sc ops s h⟩

/-- no job is started twice -/
theorem C11_no_double_start (h : run (init sc) ops = some s) : (s.starts.map (·.1)).Nodup :=
  Jade.C01.C01_started_at_most_once sc ops s h

/-- dependency order is still respected -/
theorem C11_order_respected (s' : Sys) (p : Pid) (j : JobId) (h : run (init sc) ops = some s)
    (hs : step s (.nodeStart p j) = some s') : ∀ b ∈ sc.blockers j, HasRow s b :=
  Jade.C02.C02_start_after_blockers sc ops s s' p j h hs

/-- every result produced so far remains on disk in every continuation -/
theorem C11_rows_never_lost (s' : Sys) (more : List Op) (h : run s more = some s') (r : Row)
    (hr : RowOnDisk s r) : RowOnDisk s' r :=
  rowOnDisk_run more h r hr

/-- a round that crashed after handing out batches leaves its marker behind, and behind an orphan
    marker nobody ever submits again: later invocations refuse to act -/
theorem C11_wedged_refuses (h : run (init sc) ops = some s) (ho : Orphan s) (p : Pid) (jobs : List JobId)
    (hid : Option Hid) : step s (.sbatch p jobs hid) = none := by
  have hr := (nodeInv_reach sc ops s h).batch.role
  refine step_eq_none fun s' hs => ?_
  cases hs with
  | sbatch hp hg | sbatchFailed hp hg => exact hr.not_orphan hp (Or.inl hg.1) ho

/-- the orphan marker is permanent -/
theorem C11_wedged_forever (s' : Sys) (more : List Op) (h : run (init sc) ops = some s) (ho : Orphan s)
    (hm : run s more = some s') : Orphan s' :=
  run_inv (P := Orphan) orphan_step more ho hm

/-- when the process holding the role dies, the role stays taken: nobody else is ever promoted -/
theorem C11_dead_holder_blocks (h : run (init sc) ops = some s) (p : Pid) (x : SubP)
    (hp : s.procs p = .sub false x) (hx : holds x.pc = true) (q : Pid) (y : SubP)
    (hq : getSub s q = some y) (hf : y.pc = .fresh) (s' : Sys) (hs : step s (.promote q) = some s') :
    s'.submitter = some p ∧ s'.disk = s.disk := by
  have hr := (nodeInv_reach sc ops s h).batch.role
  have hsub := hr.holder p false x hp hx
  cases step_sound hs with
  | promoteRefused => exact ⟨hsub, rfl⟩
  | promoteDone _ _ hn | promote _ _ hn => simp [hsub] at hn

/-- a round whose scheduler query fails (the exception is raised before anything is collected or
    submitted, `finally: demote` runs) leaves everything as it was: the next round starts from the
    pre-failure state -/
theorem C11_squeue_transient (p : Pid) (s' : Sys) (h : run s [.promote p, .fail p, .demote p] = some s') :
    s'.disk = s.disk ∧ s'.marker = s.marker ∧ s'.processed = s.processed ∧ s'.nodeFile = s.nodeFile ∧
    s'.batches = s.batches ∧ s'.slurm = s.slurm ∧ s'.starts = s.starts ∧
    (s.submitter = none → s'.submitter = none) := by
  obtain ⟨s1, h1, s2, h2, s3, h3, h⟩ : ∃ s1, Step s (.promote p) s1 ∧ ∃ s2, Step s1 (.fail p) s2 ∧
      ∃ s3, Step s2 (.demote p) s3 ∧ run s3 [] = some s' := by simpa only [run_cons_iff] using h
  cases h
  cases h1 <;> cases h2 <;> cases h3 <;> frame_goal <;> simp_all

/-! ## Non-vacuity: a submitter killed between `sbatch` and the status update (see `C01.demoOps`) -/

example : ((run (init Jade.C01.demoScn) Jade.C01.demoOps).map fun s =>
    (s.submitter, s.marker, s.disk.st 2, s.batches.map (·.jobs))) = some (some 5, true, .ns, [[0, 1], [2]]) := by
  decide

/-- after the kill a new process is refused and cannot submit job 2 again -/
example : (run (init Jade.C01.demoScn) (Jade.C01.demoOps ++ [.spawnSub 7 false, .promote 7, .poll 7 []])).isNone = true := by
  decide

end Jade.C11
