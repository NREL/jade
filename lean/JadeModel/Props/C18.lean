import JadeModel.Proofs.Slurm

/-!
# C18 — SLURM boundary: faithful scripts, conservative status, bounded retries

Property theorems only.  Tables and decision predicates come from `Jade.Gen.Slurm`, which is
regenerated from /repo's working tree on every run.
-/

namespace Jade.C18
open Jade.Slurm Jade.Gen.Slurm

/-! ## 1. The submission script is exactly the configured directives -/

/-- Every optional parameter of `SlurmConfig`, in the order the script lists them. -/
def optionalFields : List String :=
  ["gres", "mem", "nodes", "ntasks", "ntasks_per_node", "partition", "qos", "tmp", "reservation"]

/-- The script text the property demands. -/
def expectedScript (cfg : SlurmCfg) (name script path : String) : List String :=
  ["#!/bin/bash",
   "#SBATCH --account=" ++ cfg.account,
   "#SBATCH --job-name=" ++ name,
   "#SBATCH --time=" ++ cfg.walltime,
   "#SBATCH --output=" ++ path ++ "/job_output_%j.o",
   "#SBATCH --error=" ++ path ++ "/job_output_%j.e"]
  ++ optionalFields.filterMap (fun p => (cfg.opt p).map fun v => "#SBATCH --" ++ p ++ "=" ++ v)
  ++ ["", "srun " ++ script]

theorem C18_script_exact (cfg : SlurmCfg) (name script path : String) :
    sbatchScript cfg name script path = expectedScript cfg name script path := by
  simp [sbatchScript, expectedScript, headerLines, trailerLines, optionalParams, optionalLine,
    optionalFields, renderPieces, scriptEnv, optEnv, String.join, String.append_assoc]

/-- Exactly one directive per optional parameter that is set, none for unset ones. -/
theorem C18_script_optional_iff (cfg : SlurmCfg) (name script path p : String) (hp : p ∈ optionalFields) :
    (∃ v, cfg.opt p = some v ∧ ("#SBATCH --" ++ p ++ "=" ++ v) ∈ sbatchScript cfg name script path)
      ↔ (cfg.opt p).isSome := by
  rw [C18_script_exact]
  constructor
  · rintro ⟨v, hv, -⟩; simp [hv]
  · intro h
    obtain ⟨v, hv⟩ := Option.isSome_iff_exists.1 h
    refine ⟨v, hv, ?_⟩
    simp only [expectedScript, List.mem_append, List.mem_filterMap]
    exact Or.inl (Or.inr ⟨p, hp, by simp [hv]⟩)

/-- The run script carries exactly the group's options. -/
theorem C18_run_script (configFile output : String) (o : RunOpts) :
    runScript configFile output o =
      ["#!/bin/bash",
       "jade-internal run-jobs " ++ configFile ++ " --output=" ++ output ++ " "
        ++ (if o.distributed then "--distributed-submitter" else "--no-distributed-submitter")
        ++ (match o.numProcs with
            | some k => " --num-parallel-processes-per-node=" ++ toString k
            | none => "")
        ++ (if o.verbose then " --verbose" else "")] := by
  cases o with
  | mk d n v =>
    cases d <;> cases n <;> cases v <;>
      simp [runScript, runShebang, runCommand, runDsubTrue, runDsubFalse, runNumProcsSuffix,
        runVerboseSuffix, renderPieces, runEnv, String.join, String.append_assoc]

/-! ## 2. A batch reported in a non-finished state is never treated as finished -/

/-- SLURM's terminal job states plus `COMPLETING` (batch script has ended; deliberate choice
    of the code).  Everything else — `PENDING, CONFIGURING, RUNNING, SUSPENDED, STOPPED,
    REQUEUED, REQUEUE_FED, REQUEUE_HOLD, SPECIAL_EXIT, RESIZING, RESV_DEL_HOLD, SIGNALING,
    STAGE_OUT` and any word outside SLURM's vocabulary — is *not* finished. -/
def Finished : List String :=
  ["BOOT_FAIL", "CANCELLED", "COMPLETED", "COMPLETING", "DEADLINE", "FAILED", "NODE_FAIL",
   "OUT_OF_MEMORY", "PREEMPTED", "REVOKED", "TIMEOUT"]

/-- finite-table obligation, discharged by evaluation over the *generated* table -/
theorem table_conservative : ∀ w ∈ completeWords, w ∈ Finished := by decide

theorem defaults_conservative :
    statusDefault ≠ "COMPLETE" ∧ statusDefault ∉ completeStatuses ∧
    completeStatuses = ["COMPLETE", "NONE"] ∧ collectorDefault = "NONE" := by decide

theorem hpcIsComplete_conservative (pairs : List (String × String)) (id : String)
    (hc : hpcIsComplete pairs id = true) :
    lastWord pairs id = none ∨ ∃ w, lastWord pairs id = some w ∧ w ∈ Finished := by
  unfold hpcIsComplete checkStatus at hc
  cases hl : lastWord pairs id with
  | none => exact Or.inl rfl
  | some w =>
    refine .inr ⟨w, rfl, ?_⟩
    rw [hl, defaults_conservative.2.2.1] at hc
    have hw : statusOf w = "COMPLETE" ∨ statusOf w = "NONE" := by
      simpa [List.contains_cons, List.contains_nil] using hc
    rcases statusOf_mem_or_default w with hm | hd
    · rcases hw with hw | hw
      · exact table_conservative w (List.mem_map.2 ⟨_, List.mem_filter.2 ⟨hm, by simp [hw]⟩, rfl⟩)
      · -- no table entry maps to NONE
        exact absurd hw ((by decide : ∀ p ∈ statuses, p.2 ≠ "NONE") _ hm)
    · -- nor is the default COMPLETE or NONE
      exact absurd (hd ▸ hw) (by decide)

/-- For every squeue text and every id: if JADE decides "complete", then the id is absent
    from the listing or the state word of its (last) line is a finished state. -/
theorem C18_status_conservative (text : List Char) (pairs : List (String × String)) (id : String)
    (_hp : parseSqueue text = .ok pairs) (hc : hpcIsComplete pairs id = true) :
    lastWord pairs id = none ∨ ∃ w, lastWord pairs id = some w ∧ w ∈ Finished :=
  hpcIsComplete_conservative pairs id hc

/-- a failed status query decides nothing: no batch is treated as finished (or as anything) -/
theorem C18_query_failure_decides_nothing (pairs : List (String × String)) (id : String) :
    checkStatusQ false pairs id = .error .execError ∧ hpcIsCompleteQ false pairs id = .error .execError := by
  simp [hpcIsCompleteQ, checkStatusQ, collectorPropagatesQueryFailure, Except.map]

/-- …and with a successful query it is the plain lookup -/
theorem C18_query_ok (pairs : List (String × String)) (id : String) :
    checkStatusQ true pairs id = .ok (checkStatus pairs id) := by simp [checkStatusQ]

/-- The parsed listing is exactly the non-empty lines, each with exactly two fields. -/
theorem C18_parse_exact (text : List Char) (pairs : List (String × String))
    (hp : parseSqueue text = .ok pairs) :
    (splitNl text).filterMap parseLine = pairs.map Except.ok :=
  (parseLines_ok_iff _ _).1 hp

/-- A malformed line raises; it never yields a status (hence never "finished"). -/
theorem C18_malformed_raises (text : List Char) (l : List Char) (hl : l ∈ splitNl text)
    (hne : l ≠ []) (hbad : ∀ a b, splitWs l ≠ [a, b]) :
    parseSqueue text = .error .assertion :=
  parseLines_malformed _ l hl hne hbad

/-! ## 3. An unparsable submit response is a failed submission -/

theorem regex_is_modelled : sbatchRegex = "Submitted batch job (\\d+)" ∧ submitShapeOk = true := by
  decide

theorem C18_sbatch_unparsable_is_error (ret : Int) (stdout : List Char)
    (h : parseSbatch stdout = none) : slurmSubmit ret stdout = (.error, none) := by
  unfold slurmSubmit; split <;> simp [h]

theorem C18_sbatch_failure_is_error (ret : Int) (stdout : List Char) (h : ret ≠ 0) :
    slurmSubmit ret stdout = (.error, none) := by
  unfold slurmSubmit; simp [h]

theorem C18_sbatch_good_has_id (ret : Int) (stdout : List Char) (id : Option (List Char))
    (h : slurmSubmit ret stdout = (.good, id)) :
    ret = 0 ∧ ∃ ds, id = some ds ∧ ds ≠ [] ∧ (∀ c ∈ ds, isAsciiDigit c = true) ∧
      parseSbatch stdout = some ds := by
  unfold slurmSubmit at h
  split at h
  · next hr =>
    split at h
    · next ds hd =>
      cases h
      exact ⟨hr, ds, rfl, (parseSbatch_some hd).1, (parseSbatch_some hd).2, hd⟩
    · cases h
  · cases h

/-! ## 4. External commands are retried at most the configured number of times -/

/-- never more than `num_retries + 1` executions -/
theorem C18_retry_bounded (n : Nat) (ho : Bool) (outs : List Attempt) :
    (runCommand' n ho outs).1 ≤ n + 1 := by
  have := retryLoop_count_le n ho (n + 1) 0 outs
  simpa [runCommand'] using this

/-- `run_command` stops at the first success or listed permanent error, or after exactly
    `num_retries + 1` executions; the returned outcome is the last execution's. -/
theorem C18_retry_spec (n : Nat) (ho : Bool) (outs : List Attempt) (hlen : n + 1 ≤ outs.length) :
    ∃ j a, j ≤ n ∧ outs[j]? = some a ∧ runCommand' n ho outs = (j + 1, some a) ∧
      (a.ret = 0 ∨ (a.ret ≠ 0 ∧ 0 < n ∧ ho = true ∧ a.permanent = true) ∨ j = n) ∧
      ∀ i b, i < j → outs[i]? = some b →
        b.ret ≠ 0 ∧ ¬(0 < n ∧ ho = true ∧ b.permanent = true) := by
  obtain ⟨j, a, hj, hget, hres, hstop, hprev⟩ :=
    retryLoop_spec n ho (n + 1) 0 outs hlen (by omega) (by omega)
  exact ⟨j, a, by omega, hget, by simp [runCommand', hres], by simpa using hstop,
    fun i b hi hb => ⟨(hprev i b hi hb).1, (hprev i b hi hb).2.1⟩⟩

/-! ## Non-vacuity: concrete instances meeting the hypotheses -/

example : parseSqueue "123  RUNNING\n124 COMPLETED  \n\n125\tPENDING".toList
    = .ok [("123", "RUNNING"), ("124", "COMPLETED"), ("125", "PENDING")] := by decide
example : hpcIsComplete [("123", "RUNNING"), ("124", "COMPLETED")] "124" = true := by decide
example : hpcIsComplete [("123", "RUNNING"), ("124", "COMPLETED")] "123" = false := by decide
example : hpcIsComplete [("123", "RUNNING"), ("124", "COMPLETED")] "999" = true := by decide
example : hpcIsComplete [("123", "SUSPENDED")] "123" = false := by decide
example : parseSqueue "123 RUNNING extra".toList = .error .assertion := by decide
example : slurmSubmit 0 "Submitted batch job 4567\n".toList = (.good, some "4567".toList) := by decide
example : slurmSubmit 0 "sbatch: error".toList = (.error, none) := by decide
example : runCommand' 6 true [⟨1, false⟩, ⟨1, false⟩, ⟨0, false⟩, ⟨1, false⟩, ⟨1, false⟩, ⟨1, false⟩, ⟨1, false⟩]
    = (3, some ⟨0, false⟩) := by decide
example : (runCommand' 6 true [⟨1, false⟩, ⟨1, true⟩, ⟨0, false⟩, ⟨1, false⟩, ⟨1, false⟩, ⟨1, false⟩, ⟨1, false⟩]).1
    = 2 := by decide

end Jade.C18
