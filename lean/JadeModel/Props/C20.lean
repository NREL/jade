import JadeModel.Proofs.Reports
import JadeModel.Proofs.ReportsOrdered

/-!
# C20 — reports are faithful: events lossless, statistics and tallies correct

Property theorems only.  The sort key / grouping key / `reverse` flag of the consolidation, the if/elif
chains of the statistics update with their initial values and divisions, `Result.is_*`, the
classification chains of `_build_results` / `get_results_by_type` / `show_results` and the missing-jobs
guard come from `Jade.Gen.Reports`, regenerated from /repo's working tree on every run.

An event is `{name, timestamp, payload}` with the payload type a parameter: the consolidation is
parametric in it, so "all fields intact" holds by construction (the JSON encoding of the payload is
outside the model and checked by the `events` suite).
-/

namespace Jade.C20
open Jade.Reports Jade.Gen.Reports

/-! ## 1. The consolidated event summary -/

section events
variable {α : Type}

/-- For every name — present or not — the consolidated list of that name is a permutation of all events
    of that name over all files: each written event appears exactly once, payload untouched. -/
theorem consolidate_perm (files : List (List (Event α))) (n : String) :
    (eventsOf (consolidateEvents files) n).Perm ((allEvents files).filter fun e => e.name == n) := by
  rw [eventsOf_consolidate]
  exact sortEvents_perm _

/-- The names of the summary are exactly the names that occur, each once; and the entry stored under a
    name is what `list_events(name)` returns (never an empty list). -/
theorem consolidate_names (files : List (List (Event α))) :
    ((consolidateEvents files).map (·.1)).Nodup ∧
    (∀ n : String, n ∈ (consolidateEvents files).map (·.1) ↔ ∃ e ∈ allEvents files, e.name = n) ∧
    (∀ (n : String) (evs : List (Event α)), (n, evs) ∈ consolidateEvents files →
        evs = eventsOf (consolidateEvents files) n ∧ evs ≠ []) := by
  refine ⟨consolidate_keys files ▸ nodup_dedup _, fun n => consolidate_keys files ▸ mem_names_iff _ n,
    fun n evs h => ?_⟩
  obtain ⟨m, hm, hmn⟩ := List.mem_map.1 h
  cases hmn
  obtain ⟨e, he⟩ := (mem_names_iff _ n).1 hm
  exact ⟨(eventsOf_consolidate files n).symm, List.ne_nil_of_mem ((mem_sortEvents_named n _ e).2 he)⟩

/-- Each list is ordered by timestamp (the timestamps are compared as the code compares them: as strings). -/
theorem consolidate_sorted (files : List (List (Event α))) (n : String) :
    (eventsOf (consolidateEvents files) n).Pairwise fun a b => a.timestamp ≤ b.timestamp := by
  rw [eventsOf_consolidate]
  exact (sortEvents_sorted _).imp fun h => (keyLt_false_iff _ _).1 h

/-- Events of one name with equal timestamps keep their file/line order (the sort is stable). -/
theorem consolidate_stable (files : List (List (Event α))) (n t : String) :
    (eventsOf (consolidateEvents files) n).filter (fun e => e.timestamp == t) =
      (allEvents files).filter (fun e => e.name == n && e.timestamp == t) := by
  rw [eventsOf_consolidate, sortEvents, sortBy_filter keyLt (fun e => e.timestamp == t), eventsNamed,
    List.filter_filter]
  · exact List.filter_congr fun e _ => by simp [groupKey_eq, Bool.and_comm]
  · intro x y hx hy
    exact keyLt_irrefl_of_eq x y ((beq_iff_eq.1 hx).trans (beq_iff_eq.1 hy).symm)

/-- Consolidating a consolidated summary again (its per-name lists taken as log files) yields the same
    summary: same names in the same order, same lists. -/
theorem consolidate_idempotent (files : List (List (Event α))) :
    consolidateEvents ((consolidateEvents files).map (·.2)) = consolidateEvents files :=
  consolidate_again files

/-- What the first construction keeps in memory and saves as `events/<name>.json` is, for every name
    that is not a resource statistic (those go to Parquet tables, outside the model), the consolidated list. -/
theorem construct_first (files : List (List (Event α))) (n : String) (hn : n ∉ resourceStats) :
    eventsOf (construct { json := [], parquet := [] } files).1 n = eventsOf (consolidateEvents files) n ∧
    (construct { json := [], parquet := [] } files).2.json = (construct { json := [], parquet := [] } files).1 :=
  ⟨eventsOf_keptEvents _ n hn, rfl⟩

/-- What the real second construction does: once `events/` is non-empty it does not consolidate at all —
    it returns what the first construction saved, whatever the event log files contain by then
    (so constructing again changes nothing; events logged after the first construction are not picked up). -/
theorem construct_second (files later : List (List (Event α)))
    (h : (construct { json := [], parquet := [] } files).2.isEmpty = false) :
    construct (construct { json := [], parquet := [] } files).2 later =
      construct { json := [], parquet := [] } files :=
  construct_of_nonEmpty h later

/-- … and while `events/` is still empty (no event had been written) the next construction consolidates afresh. -/
theorem construct_second_empty (files later : List (List (Event α)))
    (h : (construct { json := [], parquet := [] } files).2.isEmpty = true) :
    construct (construct { json := [], parquet := [] } files).2 later =
      construct { json := [], parquet := [] } later :=
  (construct_of_isEmpty h later).trans (construct_of_isEmpty rfl later).symm

end events

/-! ## 2. Aggregated resource statistics

`MAXSIZE` = `sys.maxsize`.  A system statistic starts from `(max, min, sum) = (0.0, sys.maxsize, 0.0)`;
its samples are the values of the `update_resource_stats` calls (the sample taken in `__init__` only names
the statistics and is not aggregated).  Values are integers here (the suite scales dyadic samples). -/

/-- no hypothesis: what the system summaries are for *any* samples -/
theorem stats_general (MAXSIZE : Int) (xs : List Int) :
    (statsRun 0 MAXSIZE xs).st.mx = xs.foldl max 0 ∧ (statsRun 0 MAXSIZE xs).st.mn = xs.foldl min MAXSIZE := by
  rw [statsRun_spec]; exact ⟨rfl, rfl⟩

/-- the reported maximum is the true maximum of the samples -/
theorem stats_max (MAXSIZE : Int) (xs : List Int) (hne : xs ≠ [])
    (hr : ∀ x ∈ xs, 0 ≤ x ∧ x ≤ MAXSIZE) :
    (statsRun 0 MAXSIZE xs).st.mx ∈ xs ∧ ∀ x ∈ xs, x ≤ (statsRun 0 MAXSIZE xs).st.mx := by
  rw [statsRun_spec]
  exact (foldl_max_isMax 0 xs).of_cons hne fun x hx => (hr x hx).1

/-- the reported minimum is the true minimum of the samples -/
theorem stats_min (MAXSIZE : Int) (xs : List Int) (hne : xs ≠ [])
    (hr : ∀ x ∈ xs, 0 ≤ x ∧ x ≤ MAXSIZE) :
    (statsRun 0 MAXSIZE xs).st.mn ∈ xs ∧ ∀ x ∈ xs, (statsRun 0 MAXSIZE xs).st.mn ≤ x := by
  rw [statsRun_spec]
  exact (foldl_min_isMin MAXSIZE xs).of_cons hne fun x hx => (hr x hx).2

theorem stats_sum (MAXSIZE : Int) (xs : List Int) : (statsRun 0 MAXSIZE xs).st.sm = xs.sum := by
  rw [statsRun_spec]

theorem stats_count (MAXSIZE : Int) (xs : List Int) : (statsRun 0 MAXSIZE xs).count = xs.length := by
  rw [statsRun_spec]

/-- `finalize` reports nothing without samples; otherwise average = (sum of the samples) / (their number),
    next to the maximum and minimum above. -/
theorem stats_mean (MAXSIZE : Int) (xs : List Int) :
    (xs = [] → statsFinalize (statsRun 0 MAXSIZE xs) = none) ∧
    (xs ≠ [] → ∃ r, statsFinalize (statsRun 0 MAXSIZE xs) = some r ∧
        r.meanNum = xs.sum ∧ r.meanDen = xs.length ∧ r.meanDen ≠ 0 ∧ r.samples = xs.length ∧
        r.maximum = (statsRun 0 MAXSIZE xs).st.mx ∧ r.minimum = (statsRun 0 MAXSIZE xs).st.mn) := by
  constructor
  · rintro rfl; rfl
  · intro hne
    have hl : xs.length ≠ 0 := by
      intro h; exact hne (List.length_eq_zero_iff.1 h)
    rw [statsRun_spec]
    unfold statsFinalize
    simp only [hl, if_false]
    refine ⟨_, rfl, rfl, rfl, ?_, rfl, rfl, rfl⟩
    simp only [sysMeanDen]
    omega

/-- Outside the range the initial values are meant for, the summaries are wrong by construction:
    with only negative samples the maximum stays 0 … -/
theorem stats_negative_max (MAXSIZE : Int) (xs : List Int) (h : ∀ x ∈ xs, x < 0) :
    (statsRun 0 MAXSIZE xs).st.mx = 0 := by
  rw [statsRun_spec]
  exact foldl_max_eq_self 0 xs fun x hx => Int.le_of_lt (h x hx)

/-- … and with no sample below `sys.maxsize` the minimum stays `sys.maxsize`. -/
theorem stats_huge_min (MAXSIZE : Int) (xs : List Int) (h : ∀ x ∈ xs, MAXSIZE ≤ x) :
    (statsRun 0 MAXSIZE xs).st.mn = MAXSIZE := by
  rw [statsRun_spec]
  exact foldl_min_eq_self MAXSIZE xs h

/-- the range hypothesis of `stats_max` cannot be dropped -/
theorem stats_max_witness : ¬ ∀ (xs : List Int), xs ≠ [] → (statsRun 0 100 xs).st.mx ∈ xs := by
  intro h
  have := h [-3, -1] (by decide)
  revert this; decide

/-- Per-process statistics start from the first sample: no range hypothesis is needed. -/
theorem proc_max (x : Int) (xs : List Int) :
    ∃ s, procRun (x :: xs) = some s ∧ s.st.mx ∈ x :: xs ∧ ∀ y ∈ x :: xs, y ≤ s.st.mx := by
  rw [procRun_spec]
  exact ⟨_, rfl, foldl_max_isMax x xs⟩

theorem proc_min (x : Int) (xs : List Int) :
    ∃ s, procRun (x :: xs) = some s ∧ s.st.mn ∈ x :: xs ∧ ∀ y ∈ x :: xs, s.st.mn ≤ y := by
  rw [procRun_spec]
  exact ⟨_, rfl, foldl_min_isMin x xs⟩

theorem proc_sum (x : Int) (xs : List Int) :
    ∃ s, procRun (x :: xs) = some s ∧ s.st.sm = (x :: xs).sum ∧ s.count = (x :: xs).length := by
  rw [procRun_spec]
  exact ⟨_, rfl, by simp, by simp; omega⟩

/-- a process that was never sampled is not reported; otherwise average = sum / number of its samples -/
theorem proc_mean (xs : List Int) :
    (xs = [] → procFinalize (procRun xs) = none) ∧
    (xs ≠ [] → ∃ r, procFinalize (procRun xs) = some r ∧
        r.meanNum = xs.sum ∧ r.meanDen = xs.length ∧ r.meanDen ≠ 0 ∧ r.samples = xs.length) := by
  constructor
  · rintro rfl; rfl
  · intro hne
    cases xs with
    | nil => exact absurd rfl hne
    | cons x xs =>
      rw [procRun_spec]
      simp only [procFinalize, Option.map_some]
      refine ⟨_, rfl, by simp [procMeanNum], by simp [procMeanDen]; omega, by simp [procMeanDen]; omega,
        by simp; omega⟩

attribute [local instance] addMonoid_associative addMonoid_lawfulIdentity

/-- The same for samples from any linearly ordered type with an associative addition with zero (in
    particular any linear ordered field; `Int` above is the instance the suite exercises): with every sample
    in `[0, MAXSIZE]` the system summaries are the true maximum, minimum, sum and number of samples. -/
theorem stats_ordered {β : Type} [LinearOrder β] [AddMonoid β] (MAXSIZE : β) (xs : List β) (hne : xs ≠ [])
    (hr : ∀ x ∈ xs, 0 ≤ x ∧ x ≤ MAXSIZE) :
    ((statsRun 0 MAXSIZE xs).st.mx ∈ xs ∧ ∀ x ∈ xs, x ≤ (statsRun 0 MAXSIZE xs).st.mx) ∧
    ((statsRun 0 MAXSIZE xs).st.mn ∈ xs ∧ ∀ x ∈ xs, (statsRun 0 MAXSIZE xs).st.mn ≤ x) ∧
    (statsRun 0 MAXSIZE xs).st.sm = xs.sum ∧ (statsRun 0 MAXSIZE xs).count = xs.length := by
  rw [statsRun_spec]
  exact ⟨(foldl_max_isMax 0 xs).of_cons hne fun x hx => (hr x hx).1,
    (foldl_min_isMin MAXSIZE xs).of_cons hne fun x hx => (hr x hx).2, rfl, rfl⟩

/-- … and the per-process summaries, with no range hypothesis. -/
theorem proc_ordered {β : Type} [LinearOrder β] [AddMonoid β] (x : β) (xs : List β) :
    ∃ s, procRun (x :: xs) = some s ∧
      (s.st.mx ∈ x :: xs ∧ ∀ y ∈ x :: xs, y ≤ s.st.mx) ∧ (s.st.mn ∈ x :: xs ∧ ∀ y ∈ x :: xs, s.st.mn ≤ y) ∧
      s.st.sm = (x :: xs).sum ∧ s.count = (x :: xs).length := by
  rw [procRun_spec]
  exact ⟨_, rfl, foldl_max_isMax x xs, foldl_min_isMin x xs, by simp, by simp; omega⟩

/-! ## 3. The results summary -/

/-- rows the rest of JADE produces: a job that ran (any code), or a canceled job with a non-zero code -/
@[reducible] def ValidRow (r : Row) : Prop :=
  r.status = "finished" ∨ (r.status = "canceled" ∧ r.rc ≠ 0)

theorem validRow_iff (r : Row) : ValidRow r ↔ specClass r ≠ none :=
  (specClass_ne_none_iff r).symm

/-- Every valid row is in exactly one class — the same one for `_build_results`, `get_results_by_type`
    and `show_results` — and exactly one of `is_successful / is_failed / is_canceled` holds for it. -/
theorem classify_partition (r : Row) (h : ValidRow r) :
    ∃ c : Cls, classify r = .ok c ∧ typeClassify r.rc r.status = some c ∧ showClassify r.rc r.status = .ok c ∧
      isSuccessful r.rc r.status = (c == .successful) ∧ isFailed r.rc r.status = (c == .failed) ∧
      isCanceled r.rc r.status = (c == .canceled) ∧
      (c = .successful ↔ r.status = "finished" ∧ r.rc = 0) ∧
      (c = .failed ↔ r.status = "finished" ∧ r.rc ≠ 0) ∧
      (c = .canceled ↔ r.status = "canceled") := by
  rw [classify, buildClassify_spec, typeClassify_spec, showClassify_spec]
  rcases h with hf | ⟨hc, h0⟩
  · by_cases h0 : r.rc = 0
    · exact ⟨.successful, by simp [specClass, assertClass, hf, h0, isSuccessful, isFailed, isCanceled]⟩
    · exact ⟨.failed, by simp [specClass, assertClass, hf, h0, isSuccessful, isFailed, isCanceled]⟩
  · exact ⟨.canceled, by simp [specClass, assertClass, hc, h0, isSuccessful, isFailed, isCanceled]⟩

/-- Any other row — in particular a canceled row with return code 0 — hits the assertion of
    `_build_results` (and of `show_results`), and `get_results_by_type` silently drops it. -/
theorem classify_invalid (r : Row) (h : ¬ ValidRow r) :
    classify r = .error .assertion ∧ showClassify r.rc r.status = .error .assertion ∧
      typeClassify r.rc r.status = none := by
  have hn : specClass r = none := Decidable.not_not.1 fun hne => h ((validRow_iff r).2 hne)
  rw [classify, buildClassify_spec, showClassify_spec, typeClassify_spec, hn]
  exact ⟨rfl, rfl, rfl⟩

theorem classify_canceled_zero (n : String) :
    classify { name := n, rc := 0, status := "canceled" } = .error .assertion :=
  (classify_invalid _ (by simp [ValidRow])).1

/-- `_build_results` on any rows: the true numbers of successful / failed / canceled rows when every row is
    valid, and its assertion otherwise. -/
theorem tally_eq (rows : List Row) :
    tally rows =
      if ∀ r ∈ rows, ValidRow r then .ok
        { successful := rows.countP fun r => r.status == "finished" && r.rc == 0,
          failed := rows.countP fun r => r.status == "finished" && r.rc != 0,
          canceled := rows.countP fun r => r.status == "canceled" }
      else .error .assertion := by
  rw [tally, tallyWith_eq _ buildClassify_spec]
  simp only [← validRow_iff]
  split
  · next h =>
    simp only [Tally.zero, Nat.zero_add, countClass]
    congr 2 <;> refine List.countP_congr fun r hr => ?_
    · simpa using specClass_eq_some_iff r .successful
    · simpa using specClass_eq_some_iff r .failed
    · -- a valid canceled row has a non-zero code
      rcases h r hr with hf | ⟨hc, h0⟩ <;> simp [specClass_eq_some_iff, *]
  · rfl

/-- The tallies of `_build_results` are the true numbers of successful / failed / canceled rows. -/
theorem tally_correct (rows : List Row) (h : ∀ r ∈ rows, ValidRow r) :
    tally rows = .ok
      { successful := rows.countP fun r => r.status == "finished" && r.rc == 0,
        failed := rows.countP fun r => r.status == "finished" && r.rc != 0,
        canceled := rows.countP fun r => r.status == "canceled" } := by
  rw [tally_eq, if_pos h]

/-- a tally is produced exactly for valid result sets (otherwise the assertion fires) -/
theorem tally_ok_iff (rows : List Row) : (∃ t, tally rows = .ok t) ↔ ∀ r ∈ rows, ValidRow r := by
  rw [tally_eq]
  split
  · next h => exact ⟨fun _ => h, fun _ => ⟨_, rfl⟩⟩
  · next h => exact ⟨fun ⟨_, ht⟩ => (nomatch ht), fun h' => absurd h' h⟩

/-- num_successful + num_failed + num_canceled = number of rows; together with num_missing it is the
    number of configured jobs when the rows are for distinct configured jobs; `missing_jobs` are exactly
    the configured jobs without a row.  So every configured job is counted in exactly one of the four. -/
theorem tally_sum (configured : List String) (rows : List Row) (f : ResultsFile)
    (h : handleCompletion configured rows = .ok f) :
    f.tally.successful + f.tally.failed + f.tally.canceled = rows.length ∧
    f.numMissing = f.missing.length ∧
    (configured.Nodup → (rows.map (·.name)).Nodup → (∀ n ∈ rows.map (·.name), n ∈ configured) →
      f.tally.successful + f.tally.failed + f.tally.canceled + f.numMissing = configured.length ∧
      ∀ n : String, n ∈ f.missing ↔ n ∈ configured ∧ n ∉ rows.map (·.name)) := by
  unfold handleCompletion at h
  cases ht : tally rows with
  | error e => rw [ht] at h; cases h
  | ok t =>
    rw [ht] at h
    cases h
    have hv := fun r hr => (validRow_iff r).1 ((tally_ok_iff rows).1 ⟨t, ht⟩ r hr)
    rw [tally, tallyWith_eq _ buildClassify_spec, if_pos hv] at ht
    cases ht
    have hrows : (0 + countClass .successful rows) + (0 + countClass .failed rows) +
        (0 + countClass .canceled rows) = rows.length := by
      simpa using countClass_total rows hv
    refine ⟨hrows, rfl, fun hcn hrn hsub => ⟨?_, mem_missingJobs configured rows hrn hsub⟩⟩
    have := missingJobs_length configured rows hcn hrn hsub
    simp only [Tally.zero] at hrows ⊢
    omega

/-- `get_results_by_type` on valid rows for distinct jobs: each row is in exactly the list of its class,
    and the three lists together have as many entries as there are rows. -/
theorem byType_partition (rows : List Row) (hn : (rows.map (·.name)).Nodup) (hv : ∀ r ∈ rows, ValidRow r) :
    (∀ (r : Row) (c : Cls), r ∈ rowsOfClass c (byName rows) ↔ r ∈ rows ∧ specClass r = some c) ∧
    (byType rows).1.length + (byType rows).2.1.length + (byType rows).2.2.length = rows.length := by
  simp only [byType, byName_of_nodup rows hn, length_rowsOfClass]
  exact ⟨fun r c => by simp [rowsOfClass_eq], countClass_total rows fun r hr => (validRow_iff r).1 (hv r hr)⟩

/-- `show_results` prints the same tallies as results.json holds, and neither of its assertions fires. -/
theorem show_agrees (rows : List Row) (missing : List String) (hn : (rows.map (·.name)).Nodup)
    (hv : ∀ r ∈ rows, ValidRow r) :
    ∃ t, tally rows = .ok t ∧
      showResults rows missing = .ok { tally := t, numMissing := missing.length,
                                       total := rows.length + missing.length } := by
  have hspec := fun r hr => (validRow_iff r).1 (hv r hr)
  refine ⟨_, (tallyWith_eq _ buildClassify_spec rows _).trans (if_pos hspec), ?_⟩
  rw [showResults, byName_of_nodup rows hn, tallyWith_eq _ showClassify_spec, if_pos hspec]
  simp only [Tally.total, Tally.zero, Nat.zero_add, countClass_total rows hspec, beq_self_eq_true, if_true]

/-! ## Non-vacuity: concrete instances -/

private def e (n t : String) (p : Nat) : Event Nat := { name := n, timestamp := t, payload := p }

example : consolidateEvents [[e "x" "2" 0, e "y" "1" 1, e "x" "1" 2], [e "x" "1" 3, e "x" "2" 4]]
    = [("x", [e "x" "1" 2, e "x" "1" 3, e "x" "2" 0, e "x" "2" 4]), ("y", [e "y" "1" 1])] := by decide
example : eventsOf (consolidateEvents [[e "x" "2" 0], [e "x" "10" 1]]) "x" = [e "x" "10" 1, e "x" "2" 0] := by
  decide  -- timestamps are compared as strings
example : (construct { json := [], parquet := [] } [[e "cpu_stats" "1" 0, e "x" "1" 1]]).2.parquet = ["cpu_stats"] := by
  decide
example : (construct (construct { json := [], parquet := [] } [[e "x" "2" 0]]).2 [[e "x" "2" 0], [e "y" "3" 1]]).1
    = [("x", [e "x" "2" 0])] := by decide
example : statsFinalize (statsRun 0 1000 [5, 7, 3]) =
    some { maximum := 7, minimum := 3, meanNum := 15, meanDen := 3, samples := 3 } := by decide
example : statsFinalize (statsRun 0 1000 [5]) =
    some { maximum := 5, minimum := 5, meanNum := 5, meanDen := 1, samples := 1 } := by decide
example : (statsRun 0 1000 [-3, -1]).st.mx = 0 := by decide
example : (statsRun 0 1000 [2000]).st.mn = 1000 := by decide
example : procFinalize (procRun [-3, -1, -7]) =
    some { maximum := -1, minimum := -7, meanNum := -11, meanDen := 3, samples := 3 } := by decide
example : handleCompletion ["a", "b", "c", "d"]
      [⟨"a", 0, "finished"⟩, ⟨"c", 2, "finished"⟩, ⟨"d", 1, "canceled"⟩]
    = .ok { tally := { successful := 1, failed := 1, canceled := 1 }, numMissing := 1, missing := ["b"] } := by
  decide
example : handleCompletion ["a"] [⟨"a", 0, "canceled"⟩] = .error .assertion := by decide
example : byType [⟨"a", 0, "finished"⟩, ⟨"c", 2, "finished"⟩, ⟨"d", 1, "canceled"⟩]
    = ([⟨"a", 0, "finished"⟩], [⟨"c", 2, "finished"⟩], [⟨"d", 1, "canceled"⟩]) := by decide

end Jade.C20
