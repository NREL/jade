import JadeModel.Props.C03
import JadeModel.Props.C03Live
import JadeModel.Props.C03Unique
import JadeModel.Props.C04
import JadeModel.Proofs.SystemBound
import JadeModel.Props.Replica

/-!
# C03, complete statement

`Props/C03.lean` proves that every row ever on disk is the reference outcome (all runs). This file adds
the two fault-free facts — no missing job at completion (`Props/C03Live.lean`) and one row per job
(`Props/C03Unique.lean`) — and combines the three into the property as stated:

  when a fault-free submission is complete, the consolidated results contain **exactly one entry per
  configured job, nothing else, no missing job**, and each entry is the reference evaluation.

`runP` = executions without crashes, write failures, lost batches, failed sbatch and cancel-jobs, in which
every round collects all finished result files and submits every unblocked job unless the node limit is
reached — two facts replayed on every fault-free real execution (`Model/SystemPlain.lean`).
-/

namespace Jade.C03
open Jade.Sys Jade.Ref

theorem C03_complete_no_missing : type_of% @Jade.C03Live.C03_complete_no_missing := @Jade.C03Live.C03_complete_no_missing
theorem C03_decided_no_missing : type_of% @Jade.C03Live.C03_decided_no_missing := @Jade.C03Live.C03_decided_no_missing
theorem C03_complete_results_are_reference : type_of% @Jade.C03Live.C03_complete_results_are_reference := @Jade.C03Live.C03_complete_results_are_reference
theorem C03_one_row_per_job : type_of% @Jade.C03Unique.C03_one_row_per_job := @Jade.C03Unique.C03_one_row_per_job
theorem C03_one_row_per_job_calm : type_of% @Jade.C03Unique.C03_one_row_per_job_calm := @Jade.C03Unique.C03_one_row_per_job_calm
theorem C03_duplicate_needs_exception : type_of% @Jade.C03Unique.C03_duplicate_needs_exception := @Jade.C03Unique.C03_duplicate_needs_exception
theorem C03_node_writes_once_always : type_of% @Jade.C03Unique.C03_node_writes_once_always := @Jade.C03Unique.C03_node_writes_once_always

/-- every row on disk is for a configured job (all runs) -/
theorem C03_rows_only_for_configured_jobs : type_of% @Jade.Sys.row_job_lt := @Jade.Sys.row_job_lt

/-- **The property as stated.** At completion of a fault-free run the job column of the consolidated
    results is a duplicate-free list containing exactly the configured jobs `0 … n-1` (so it has `n`
    entries and nothing is missing), and every entry is the reference outcome of its job. -/
theorem C03_exactly_one_entry_per_job (sc : Scn) (rank : JobId → Nat) (hac : Acyclic sc.graph rank)
    (hmax : 1 ≤ sc.maxNodes) (ops : List Op) (s : Sys) (h : runP (init sc) ops = some s)
    (hc : s.disk.complete = true) :
    (s.processed.map (·.job)).Nodup ∧
    (∀ j : JobId, j ∈ s.processed.map (·.job) ↔ j < sc.n) ∧
    s.processed.length = sc.n ∧
    (∀ r ∈ s.processed, r.outcome = ref sc.graph r.job) := by
  have hrun := runP_run ops h
  have hnd := (Jade.C03Unique.C03_one_row_per_job sc ops s h).1
  have hmem : ∀ j : JobId, j ∈ s.processed.map (·.job) ↔ j < sc.n := by
    intro j
    constructor
    · intro hj
      obtain ⟨r, hr, rfl⟩ := List.mem_map.1 hj
      exact row_job_lt sc ops s hrun r (Or.inl hr)
    · intro hj
      obtain ⟨r, hr, rfl⟩ := Jade.C03Live.C03_complete_no_missing sc rank hac hmax ops s h hc j hj
      exact List.mem_map.2 ⟨r, hr, rfl⟩
  refine ⟨hnd, hmem, ?_, ?_⟩
  · have h1 : (s.processed.map (·.job)).length ≤ (List.range sc.n).length :=
      hnd.length_le_of_subset (fun j hj => List.mem_range.2 ((hmem j).1 hj))
    have h2 : (List.range sc.n).length ≤ (s.processed.map (·.job)).length :=
      List.nodup_range.length_le_of_subset (fun j hj => (hmem j).2 (List.mem_range.1 hj))
    simp only [List.length_map, List.length_range] at h1 h2
    omega
  · intro r hr
    exact C03_rows_equal_reference sc rank hac ops s hrun r (Or.inl hr) (row_job_lt sc ops s hrun r (Or.inl hr))

/-- hence two complete fault-free runs of the same jobs — any batching, node limits, schedules —
    have the same results up to order -/
theorem C03_complete_runs_agree (sc sc' : Scn) (hg : sc.graph = sc'.graph) (rank : JobId → Nat)
    (hac : Acyclic sc.graph rank) (hmax : 1 ≤ sc.maxNodes) (hmax' : 1 ≤ sc'.maxNodes)
    (ops ops' : List Op) (s s' : Sys) (h : runP (init sc) ops = some s) (h' : runP (init sc') ops' = some s')
    (hc : s.disk.complete = true) (hc' : s'.disk.complete = true) (j : JobId) (o : Outcome) :
    (∃ r ∈ s.processed, r.job = j ∧ r.outcome = o) ↔ (∃ r ∈ s'.processed, r.job = j ∧ r.outcome = o) := by
  have hn : sc.n = sc'.n := congrArg Graph.n hg
  have hac' : Acyclic sc'.graph rank := hg ▸ hac
  have A := C03_exactly_one_entry_per_job sc rank hac hmax ops s h hc
  have B := C03_exactly_one_entry_per_job sc' rank hac' hmax' ops' s' h' hc'
  constructor
  · rintro ⟨r, hr, rfl, rfl⟩
    have hj : r.job < sc'.n := by rw [← hn]; exact (A.2.1 r.job).1 (List.mem_map.2 ⟨r, hr, rfl⟩)
    obtain ⟨r', hr', hjob⟩ := List.mem_map.1 ((B.2.1 r.job).2 hj)
    exact ⟨r', hr', hjob, by rw [B.2.2.2 r' hr', A.2.2.2 r hr, hjob, hg]⟩
  · rintro ⟨r, hr, rfl, rfl⟩
    have hj : r.job < sc.n := by rw [hn]; exact (B.2.1 r.job).1 (List.mem_map.2 ⟨r, hr, rfl⟩)
    obtain ⟨r', hr', hjob⟩ := List.mem_map.1 ((A.2.1 r.job).2 hj)
    exact ⟨r', hr', hjob, by rw [A.2.2.2 r' hr', B.2.2.2 r hr, hjob, hg]⟩

/-! ### multi-node allocations (`hpc.nodes ≥ 2`, `Model/Replica.lean`): every node of the allocation runs the batch, the
results file receives exactly what the manager node's queue logged — so the node-level statements above hold for an
allocation of any size -/
theorem C03_multinode_rows_eq_manager : type_of% @Jade.Replica.allocation_rows_eq_manager := @Jade.Replica.allocation_rows_eq_manager
theorem C03_multinode_row_at_most_once : type_of% @Jade.Replica.allocation_row_at_most_once := @Jade.Replica.allocation_row_at_most_once
theorem C03_multinode_one_row_per_job : type_of% @Jade.Replica.allocation_run_complete := @Jade.Replica.allocation_run_complete
theorem C03_multinode_worker_records_nothing : type_of% @Jade.Replica.worker_records_nothing := @Jade.Replica.worker_records_nothing

end Jade.C03

/-! ## C01's closing sentence -/

namespace Jade.C01
open Jade.Sys Jade.Ref

/-- "When the submission completes without faults, every job was either placed in exactly one batch or
    canceled without running": every job has one row; if it is a finished row the job was started once by
    the node of the one batch containing it; if it is a canceled row the job was never started. -/
theorem C01_complete_accounting (sc : Scn) (rank : JobId → Nat) (hac : Acyclic sc.graph rank)
    (hmax : 1 ≤ sc.maxNodes) (ops : List Op) (s : Sys) (h : runP (init sc) ops = some s)
    (hc : s.disk.complete = true) (j : JobId) (hj : j < sc.n) :
    ∃ r ∈ s.processed, r.job = j ∧
      ((r.canceled = false ∧ (∃ b ∈ s.batches, j ∈ b.jobs) ∧ (s.batches.flatMap (·.jobs)).count j = 1 ∧
          (s.starts.map (·.1)).count j = 1) ∨
       (r.canceled = true ∧ j ∉ s.starts.map (·.1))) := by
  have hrun := runP_run ops h
  obtain ⟨r, hr, rfl⟩ := Jade.C03Live.C03_complete_no_missing sc rank hac hmax ops s h hc j hj
  refine ⟨r, hr, rfl, ?_⟩
  cases hcan : r.canceled with
  | true =>
    right
    exact ⟨rfl, Jade.C04.C04_canceled_never_started sc rank hac ops s hrun r (Or.inl hr) hcan hj⟩
  | false =>
    left
    have hst : r.job ∈ s.starts.map (·.1) := (Jade.C03.C03_finished_row_real sc ops s hrun r (Or.inl hr) hcan).2
    obtain ⟨jh, hjh, hjeq⟩ := List.mem_map.1 hst
    obtain ⟨b, hb, -, hjb⟩ := C01_started_in_its_batch sc ops s hrun jh hjh
    rw [hjeq] at hjb
    have hmemb : r.job ∈ s.batches.flatMap (·.jobs) := List.mem_flatMap.2 ⟨b, hb, hjb⟩
    refine ⟨rfl, ⟨b, hb, hjb⟩, ?_, ?_⟩
    · have hle := C01_batches_containing_le_one sc ops s hrun r.job
      have hpos := List.count_pos_iff.2 hmemb
      omega
    · have hle := List.nodup_iff_count.1 (C01_started_at_most_once sc ops s hrun) r.job
      have hpos := List.count_pos_iff.2 hst
      omega

/-- multi-node allocations: every node launches its own copy of each job of the batch, each node at most once -/
theorem C01_multinode_node_launches_at_most_once : type_of% @Jade.Replica.node_launches_at_most_once := @Jade.Replica.node_launches_at_most_once

end Jade.C01
