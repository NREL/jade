import JadeModel.Props.C20
import JadeModel.Proofs.ReportsAgg

/-!
# C20, continued — from the processes' event files to the consolidated summary

`Props/C20.lean` is about `EventsSummary` on a given set of top-level event files.  These theorems are about how
the events get there over the whole history of a submission (`Model/ReportsAgg.lean`): submitter processes and
node runners append to their own top-level files, job processes append to `job-outputs/<job>/events.log`, and
the runner of a batch moves the files of its jobs into the node's file (`JobRunner._aggregate_events`).  Batches
may be killed before they aggregate, be requeued under the same batch id and node id, and jobs may run again in
later batches (resubmission).  All open modes, the `continue`, the `os.remove` after the copy and the file names
are the constants of `Jade.Gen.ReportsAgg`, regenerated from the source on every run.

An event written by a job process is *pending* while it sits in a per-job file, i.e. until the runner of a batch
that holds the job has aggregated.
-/

namespace Jade.C20
open Jade.Reports Jade.ReportsAgg Jade.Gen.Reports Jade.Gen.ReportsAgg

section aggregation
variable {α : Type}

/-- Conservation, for all histories from any starting directory: the lines of the top-level event files together
    with the lines pending in per-job files are a permutation of what was there plus every event any process
    wrote — nothing is lost, duplicated or altered by any step (in particular by an aggregation, a killed batch,
    a requeue into the same node file, or a job that runs again). -/
theorem aggregate_conservation (s : Out α) (ops : List (Op α)) :
    (content (run s ops).top ++ content (run s ops).job).Perm
      (content s.top ++ content s.job ++ written ops) :=
  total_run s ops

/-- From any starting directory: consolidating the top-level event files (in whatever order the glob lists them)
    gives, for every name, the events of that name that were there or were written since, less those still
    pending in per-job files. -/
theorem aggregate_pending_from (s : Out α) (ops : List (Op α)) (files : List (List (Event α)))
    (hfiles : files.Perm ((run s ops).top.map (·.2))) (n : String) :
    (eventsOf (consolidateEvents files) n ++ (content (run s ops).job).filter fun e => e.name == n).Perm
      ((content s.top ++ content s.job ++ written ops).filter fun e => e.name == n) := by
  have := ((hfiles.flatten.append_right _).trans (aggregate_conservation s ops)).filter fun e => e.name == n
  rw [List.filter_append] at this
  exact ((consolidate_perm files n).append_right _).trans this

/-- The consolidated events and the pending ones together are exactly the written ones: after any history from
    an empty output directory an event is missing from the summary iff it is still pending. -/
theorem aggregate_pending (ops : List (Op α)) (files : List (List (Event α)))
    (hfiles : files.Perm ((run Out.empty ops).top.map (·.2))) (n : String) :
    (eventsOf (consolidateEvents files) n ++ (content (run Out.empty ops).job).filter fun e => e.name == n).Perm
      ((written ops).filter fun e => e.name == n) :=
  aggregate_pending_from Out.empty ops files hfiles n

/-- Exactly once: after any history from an empty output directory, when no event is pending in a per-job file,
    consolidating the top-level event files (in whatever order the glob lists them) gives, for every name, a
    permutation of the events of that name that all processes wrote over the whole history. -/
theorem aggregate_exactly_once (ops : List (Op α)) (files : List (List (Event α)))
    (hfiles : files.Perm ((run Out.empty ops).top.map (·.2)))
    (hpending : content (run Out.empty ops).job = []) (n : String) :
    (eventsOf (consolidateEvents files) n).Perm ((written ops).filter fun e => e.name == n) := by
  have := aggregate_pending ops files hfiles n
  rwa [hpending, List.filter_nil, List.append_nil] at this

/-- Per-job files are named apart over every history (a job's runs all go to the one file of that job). -/
theorem job_files_distinct (ops : List (Op α)) : (keys (run (Out.empty : Out α) ops).job).Nodup :=
  nodup_run Out.empty ops .nil

/-- When the runner of a batch has aggregated, none of the jobs of its configuration has a per-job event file
    left — whether the job ran in this batch, in an earlier batch that was killed, or not at all — so nothing of
    theirs is pending, and a later run of the job starts from an empty file. -/
theorem aggregate_drains (ops : List (Op α)) (b nd : String) (jobs : List String) :
    ∀ j ∈ jobs, lookupFile (jobPath j jobLogFile) (run Out.empty (ops ++ [Op.aggregate b nd jobs])).job = none := by
  rw [run, List.foldl_append]
  exact aggregate_step_drains b nd jobs _ (job_files_distinct ops)

/-- `jade resubmit-jobs` empties `events/`, so the next construction of the summary consolidates the event files
    as they are then (and `aggregate_exactly_once` applies to it). -/
theorem resubmit_reconsolidates (d : EventsDir α) (files : List (List (Event α))) :
    construct (clearEvents d) files = construct { json := [], parquet := [] } files := by
  simp [clearEvents, resubmitClearsEvents_eq]

end aggregation

/-! ## Non-vacuity: a job that runs in two batches, a killed batch that is requeued -/

private def ev (n t : String) (p : Nat) : Event Nat := { name := n, timestamp := t, payload := p }

/-- job `j0` fails in batch 1 and runs again in batch 2 after a resubmission: each attempt's events are in
    exactly one node file, no per-job file is left -/
example : run Out.empty
    [.submitterStart, .submitterLog [ev "submit" "1" 0],
     .runnerStart "1" "0", .jobRun "j0" (some [ev "x" "2" 1]), .jobRun "j1" (some [ev "x" "3" 2]),
     .aggregate "1" "0" ["j0", "j1"],
     .submitterStart, .submitterLog [ev "submit" "4" 3],
     .runnerStart "2" "0", .jobRun "j0" (some [ev "x" "5" 4]), .aggregate "2" "0" ["j0"]]
    = { top := [("submit_jobs_events.log", [ev "submit" "1" 0, ev "submit" "4" 3]),
                ("run_jobs_batch_1_0_events.log", [ev "x" "2" 1, ev "x" "3" 2]),
                ("run_jobs_batch_2_0_events.log", [ev "x" "5" 4])],
        job := [] } := by decide

/-- batch 1 is killed before it aggregates and requeued (same batch id, same node): the first attempt's events
    wait in the per-job file and reach the node's file once, with the second attempt's; `j1` never opens a file -/
example : run Out.empty
    [.runnerStart "1" "0", .runnerLog "1" "0" [ev "r" "1" 0], .jobRun "j0" (some [ev "x" "2" 1]),
     .runnerStart "1" "0", .runnerLog "1" "0" [ev "r" "3" 2], .jobRun "j0" (some [ev "x" "4" 3]), .jobRun "j1" none,
     .aggregate "1" "0" ["j1", "j0"]]
    = { top := [("run_jobs_batch_1_0_events.log", [ev "r" "1" 0, ev "r" "3" 2, ev "x" "2" 1, ev "x" "4" 3])],
        job := [] } := by decide

/-- before the requeued batch aggregates, the first attempt's event is pending, not consolidated -/
example : let s := run Out.empty [.runnerStart "1" "0", .jobRun "j0" (some [ev "x" "2" 1])]
    (eventsOf (consolidateEvents (s.top.map (·.2))) "x", content s.job) = ([], [ev "x" "2" 1]) := by decide

example : eventsOf (consolidateEvents ((run Out.empty
    [.runnerStart "1" "0", .jobRun "j0" (some [ev "x" "2" 1]), .aggregate "1" "0" ["j0"],
     .runnerStart "2" "0", .jobRun "j0" (some [ev "x" "1" 2]), .aggregate "2" "0" ["j0"]]).top.map (·.2))) "x"
    = [ev "x" "1" 2, ev "x" "2" 1] := by decide

end Jade.C20
