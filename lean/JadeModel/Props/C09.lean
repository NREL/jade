import JadeModel.Proofs.SystemStatusRun
import JadeModel.Props.ClusterStatus
import JadeModel.Props.C10

/-!
# C09 — the persisted status is consistent and only moves forward

Two levels.

**System level** (`Jade.Sys`, the model validated by history replay of real multi-process executions).
`s.disk` is the abstract content of `cluster_config.json` + `job_status.json`; every op of the model is one
lock section (or one external command), so every state of a run is an instant at which the cluster lock is
free and the status can be read.  The model has no resubmission op: all its histories lie "between
resubmissions".

* ALL op sequences (every schedule of submitter rounds, cancel-jobs, node runners; kills, exceptions, lost
  batches, failed sbatch, a collector dying mid-move, a crash between the two file writes):
  `C09_forward_step` / `C09_forward` (per job: state rank never decreases, remaining blockers only shrink;
  both counters never decrease; complete and canceled are sticky), `C09_blockers_cleared` (a submitted or
  done job lists no blockers), `C09_holder_copy_current` (the auxiliary invariant: the role holder's in-memory
  copy is never behind the disk; only the holder writes).
* Histories without the op `persistJobs` (all other faults allowed): `C09_done_has_result` — every job
  marked done has a recorded result.  Over all ops the statement is FALSE in the model (`persistJobs` is
  accepted from any failed round, also one that failed between deciding a cancellation and appending its row:
  `done_without_result_witness`); `C09_done_has_result_partial` is the all-ops statement with that exception
  spelled out.
* Fault-free op sequences (`plainOps`: no `Op.isFault`): `C09_counters_exact` (completed = #done,
  submitted = #(submitted ∨ done)), `C09_counter_order` (completed ≤ submitted ≤ total).  With a crash between
  the two file writes the counters are ahead of the job states until the second write happens
  (`torn_update_witness`); `C09_torn_update_completed` / `C09_counters_after_completed_torn_update`: once it
  has happened the files are exactly what an uninterrupted `update_job_status` writes.  For the other faults
  (kill, exception, lost batch, failed sbatch, collector dying mid-move) exactness of the counters is not
  proved here (the direct oracle does not run in fault modes either).

**Cluster API level** (`Jade.Cluster`, the real arithmetic of `Cluster._update_job_status` and friends on the
four files, version numbers included): re-exported from `Jade.ClusterStatus` / `Jade.C10`.  Version numbers
are not part of the system model; "versions increase with every change" is proved there
(`C09_update_preserves`: `Mono` has `cfgChanged`/`jsChanged`, and the job-status version strictly increases;
`C09_versions_monotone`).  Resubmission: `C09_prepareResubmit_statusInv` and the proved counterexample
`C09_prepareResubmit_unselected_breaks_statusInv` (known finding, DESIGN 9.7).
-/

namespace Jade.C09
open Jade.Sys

/-! ## System level, all op sequences -/

/-- **Forward only, one event.**  In every reachable state, every accepted event — faults included —
    leaves each job's state at least as advanced, each remaining-blockers set a subset, both counters at
    least as large, and `is_complete` / `is_canceled` set if they were. -/
theorem C09_forward_step (sc : Scn) (ops : List Op) (s s' : Sys) (op : Op)
    (h : run (init sc) ops = some s) (hs : step s op = some s') : Fwd s.disk s'.disk := by
  have hi := statusAll_run ops (statusAll_init True sc) (tornOk_true ops) h
  exact fwd_step hi.gate hi.loc (step_sound hs)

/-- **Forward only, any continuation.** -/
theorem C09_forward (sc : Scn) (ops more : List Op) (s s' : Sys)
    (h : run (init sc) ops = some s) (hm : run s more = some s') : Fwd s.disk s'.disk :=
  fwd_run more (statusAll_run ops (statusAll_init True sc) (tornOk_true ops) h) hm

/-- a job's state only advances not_submitted → submitted → done -/
theorem C09_state_only_advances (sc : Scn) (ops more : List Op) (s s' : Sys)
    (h : run (init sc) ops = some s) (hm : run s more = some s') (j : JobId) :
    rank (s.disk.st j) ≤ rank (s'.disk.st j) :=
  (C09_forward sc ops more s s' h hm).rank_le j

/-- its remaining-blockers set only shrinks -/
theorem C09_blockers_only_shrink (sc : Scn) (ops more : List Op) (s s' : Sys)
    (h : run (init sc) ops = some s) (hm : run s more = some s') (j b : JobId) (hb : b ∈ s'.disk.blk j) :
    b ∈ s.disk.blk j :=
  (C09_forward sc ops more s s' h hm).blk j b hb

/-- counters never decrease -/
theorem C09_counters_never_decrease (sc : Scn) (ops more : List Op) (s s' : Sys)
    (h : run (init sc) ops = some s) (hm : run s more = some s') :
    s.disk.subCnt ≤ s'.disk.subCnt ∧ s.disk.doneCnt ≤ s'.disk.doneCnt :=
  ⟨(C09_forward sc ops more s s' h hm).sub, (C09_forward sc ops more s s' h hm).done⟩

/-- a complete submission stays complete (and a canceled one canceled) -/
theorem C09_complete_stays_complete (sc : Scn) (ops more : List Op) (s s' : Sys)
    (h : run (init sc) ops = some s) (hm : run s more = some s') :
    (s.disk.complete = true → s'.disk.complete = true) ∧ (s.disk.canceled = true → s'.disk.canceled = true) :=
  ⟨(C09_forward sc ops more s s' h hm).complete, (C09_forward sc ops more s s' h hm).canceled⟩

/-- the remaining-blockers set is empty once the job is submitted -/
theorem C09_blockers_cleared (sc : Scn) (ops : List Op) (s : Sys) (h : run (init sc) ops = some s)
    (j : JobId) (hj : s.disk.st j ≠ .ns) : s.disk.blk j = [] :=
  (statusAll_run ops (statusAll_init True sc) (tornOk_true ops) h).loc.blkClear j hj

/-- the auxiliary invariant: whoever holds the submitter role (alive or dead) has a copy whose counters
    are the disk's, whose job states are the disk's or ahead, whose blocker sets are subsets of the disk's -/
theorem C09_holder_copy_current (sc : Scn) (ops : List Op) (s : Sys) (h : run (init sc) ops = some s) :
    LocInv s :=
  (statusAll_run ops (statusAll_init True sc) (tornOk_true ops) h).loc

/-! ## System level, every done job has a recorded result -/

/-- Histories in which no `persistJobs` occurs — every other fault allowed: a job marked done has a row
    (in the consolidated file or in a node's result file). -/
theorem C09_done_has_result (sc : Scn) (ops : List Op) (s : Sys) (hn : noTornJobs ops)
    (h : run (init sc) ops = some s) (j : JobId) (hd : s.disk.st j = .done) : HasRow s j := by
  have hi := statusAll_run ops (statusAll_init False sc) hn h
  rcases hi.rows.diskRow j hd with hr | ⟨hf, -⟩
  · exact hr
  · exact hf.elim

/- Full statement (FALSE in the model, see `done_without_result_witness`):
     ∀ sc ops s, run (init sc) ops = some s → ∀ j, s.disk.st j = .done → HasRow s j            -/

/-- ALL op sequences: a job marked done has a row, or it is a job some round canceled in memory without
    (yet) appending the canceled row — possible on disk only through a `persistJobs` of a failed round. -/
theorem C09_done_has_result_partial (sc : Scn) (ops : List Op) (s : Sys)
    (h : run (init sc) ops = some s) (j : JobId) (hd : s.disk.st j = .done) : HasRow s j ∨ TornCancel s j := by
  have hi := statusAll_run ops (statusAll_init True sc) (tornOk_true ops) h
  rcases hi.rows.diskRow j hd with hr | ⟨-, ht⟩
  · exact Or.inl hr
  · exact Or.inr ht

/-! ## System level, fault-free op sequences: the counters -/

/-- `completed_jobs` = number of jobs marked done, `submitted_jobs` = number marked submitted or done -/
theorem C09_counters_exact (sc : Scn) (ops : List Op) (s : Sys) (hp : plainOps ops)
    (h : run (init sc) ops = some s) :
    s.disk.doneCnt = cntDone sc.n s.disk.st ∧ s.disk.subCnt = cntSub sc.n s.disk.st := by
  have hi := (flow_reach sc ops s hp h).counters
  have hsc : s.sc = sc := by rw [sc_run ops h]; rfl
  rw [← hsc]
  exact ⟨hi.done, hi.sub⟩

/-- completed ≤ submitted ≤ total -/
theorem C09_counter_order (sc : Scn) (ops : List Op) (s : Sys) (hp : plainOps ops)
    (h : run (init sc) ops = some s) : s.disk.doneCnt ≤ s.disk.subCnt ∧ s.disk.subCnt ≤ sc.n := by
  obtain ⟨h1, h2⟩ := C09_counters_exact sc ops s hp h
  rw [h1, h2]
  exact ⟨cntDone_le_cntSub _ _, cntSub_le _ _⟩

/-- what the counters rest on: in fault-free histories each job has at most one row per file and across
    files, a row is collected into one round only, and where a job's row is determines its state -/
theorem C09_completions_counted_once (sc : Scn) (ops : List Op) (s : Sys) (hp : plainOps ops)
    (h : run (init sc) ops = some s) : FlowA s ∧ FlowB s :=
  ⟨(flow_reach sc ops s hp h).a, (flow_reach sc ops s hp h).b⟩

/-- a crash between the two file writes of `update_job_status`, later completed by the second write,
    leaves exactly the status an uninterrupted `update_job_status` writes -/
theorem C09_torn_update_completed : type_of% @Jade.Sys.torn_pair_eq_persist := @Jade.Sys.torn_pair_eq_persist

/-- … so after a fault-free history followed by such a completed pair the counters are exact again -/
theorem C09_counters_after_completed_torn_update (sc : Scn) (ops : List Op) (s s1 s2 : Sys) (p : Pid)
    (hp : plainOps ops) (h : run (init sc) ops = some s) (h1 : step s (.persistCfg p) = some s1)
    (h2 : step s1 (.persistJobs p) = some s2) :
    s2.disk.doneCnt = cntDone sc.n s2.disk.st ∧ s2.disk.subCnt = cntSub sc.n s2.disk.st := by
  obtain ⟨s3, hs3, hd⟩ := torn_pair_eq_persist h1 h2
  have hi := (flow_step (flow_reach sc ops s hp h) (op := .persist p) rfl (step_sound hs3)).counters
  have hsc : s3.sc = sc := by rw [sc_step (step_sound hs3), sc_run ops h]; rfl
  rw [hd, ← hsc]
  exact ⟨hi.done, hi.sub⟩

/-! ## Cluster API level (the real `_update_job_status` arithmetic, versions included) -/

theorem C09_statusInv_order : type_of% @Jade.ClusterStatus.StatusInv.order := @Jade.ClusterStatus.StatusInv.order
theorem C09_create_statusInv : type_of% @Jade.ClusterStatus.create_statusInv := @Jade.ClusterStatus.create_statusInv
/-- `update_job_status` with a round's arguments: consistent afterwards, only forward, version strictly larger -/
theorem C09_update_preserves : type_of% @Jade.ClusterStatus.update_preserves := @Jade.ClusterStatus.update_preserves
theorem C09_update_assertion_double_submit : type_of% @Jade.ClusterStatus.update_assertion_double_submit := @Jade.ClusterStatus.update_assertion_double_submit
theorem C09_update_assertion_iff : type_of% @Jade.ClusterStatus.update_assertion_iff := @Jade.ClusterStatus.update_assertion_iff
theorem C09_promote_demote_preserve : type_of% @Jade.ClusterStatus.promote_demote_preserve := @Jade.ClusterStatus.promote_demote_preserve
theorem C09_markComplete_preserves : type_of% @Jade.ClusterStatus.markComplete_preserves := @Jade.ClusterStatus.markComplete_preserves
theorem C09_completeHpcId_preserves : type_of% @Jade.ClusterStatus.completeHpcId_preserves := @Jade.ClusterStatus.completeHpcId_preserves
/-- every non-resubmit operation by a current handle moves the four files only forward -/
theorem C09_update_monotone : type_of% @Jade.ClusterStatus.update_monotone := @Jade.ClusterStatus.update_monotone
/-- version files never decrease and increase exactly when the file content changes -/
theorem C09_versions_monotone : type_of% @Jade.C10.C10_versions_monotone := @Jade.C10.C10_versions_monotone
/-- resubmission re-establishes the invariant when every never-submitted job is selected (`--missing`) … -/
theorem C09_prepareResubmit_statusInv : type_of% @Jade.ClusterStatus.prepareResubmit_statusInv := @Jade.ClusterStatus.prepareResubmit_statusInv
/-- … and does NOT otherwise (known finding, DESIGN 9.7): proved counterexample -/
theorem C09_prepareResubmit_unselected_breaks_statusInv : type_of% @Jade.ClusterStatus.prepareResubmit_unselected_breaks_statusInv := @Jade.ClusterStatus.prepareResubmit_unselected_breaks_statusInv
theorem C09_prepareResubmit_then_submitted_exceeds_total : type_of% @Jade.ClusterStatus.prepareResubmit_then_submitted_exceeds_total := @Jade.ClusterStatus.prepareResubmit_then_submitted_exceeds_total
theorem C09_serializeJobs_bumps_without_change : type_of% @Jade.ClusterStatus.serializeJobs_bumps_without_change := @Jade.ClusterStatus.serializeJobs_bumps_without_change
theorem C09_update_resubmits_done_silently : type_of% @Jade.ClusterStatus.update_resubmits_done_silently := @Jade.ClusterStatus.update_resubmits_done_silently

/-! ## Non-vacuity and the counterexamples -/

/-- job 0 fails; job 1 (flagged, blocked by 0) is canceled by the submitter; job 2 is independent -/
def demoScn : Scn := { n := 3, blockers := fun j => if j = 1 then [0] else [], flag := fun j => j = 1,
                       rc := fun j => if j = 0 then 3 else 0, maxNodes := 2 }

def round1 : List Op :=
  [.spawnSub 1 false, .promote 1, .passEnd 1 [], .collectDone 1, .mark 1, .sbatch 1 [0] (some 100)]

def node1 : List Op :=
  [.unmark 1, .demote 1, .exit 1, .startBatch 100 2 1, .nodeStart 2 0, .nodeRow 2 0]

def round2 : List Op :=
  [.spawnSub 3 false, .promote 3, .poll 3 [], .collectFile 3 1, .passEnd 3 [1]]

/-- a fault-free history with a submitter-side cancellation: two rounds, one node -/
def demoOps : List Op :=
  round1 ++ [.persist 1] ++ node1 ++ round2 ++
    [.cancelRow 3 1, .passEnd 3 [], .collectDone 3, .mark 3, .sbatch 3 [2] (some 101), .persist 3]

example : plainOps demoOps := by decide

/-- completed = 2 (jobs 0, 1), submitted = 3: the canceled job is counted once in each counter -/
example : ((run (init demoScn) demoOps).map fun s =>
    (s.disk.doneCnt, s.disk.subCnt, (List.range 3).map s.disk.st, (List.range 3).map s.disk.blk))
    = some (2, 3, [.done, .done, .sub], [[], [], []]) := by decide

example : ((run (init demoScn) demoOps).map fun s =>
    (cntDone 3 s.disk.st, cntSub 3 s.disk.st, (allRows s).map (·.job))) = some (2, 3, [0, 1]) := by decide

/-- between the two rounds: job 1 still waits for job 0 -/
example : ((run (init demoScn) (round1 ++ [.persist 1] ++ node1)).map fun s =>
    (s.disk.doneCnt, s.disk.subCnt, (List.range 3).map s.disk.st, (List.range 3).map s.disk.blk))
    = some (0, 1, [.sub, .ns, .ns], [[], [0], []]) := by decide

/-- WITNESS (crash between the two file writes): the config already counts job 0 as submitted while
    job_status.json still says not_submitted — `completed ≤ submitted ≤ total` holds, the equalities do not -/
theorem torn_update_witness : ((run (init demoScn) (round1 ++ [.persistCfg 1])).map fun s =>
    (s.disk.subCnt, cntSub 3 s.disk.st, (List.range 3).map s.disk.st)) = some (1, 0, [.ns, .ns, .ns]) := by decide

/-- … and the second write repairs it -/
example : ((run (init demoScn) (round1 ++ [.persistCfg 1, .persistJobs 1])).map fun s =>
    (s.disk.subCnt, cntSub 3 s.disk.st, (List.range 3).map s.disk.st)) = some (1, 1, [.sub, .ns, .ns]) := by decide

/-- WITNESS (why `C09_done_has_result` excludes `persistJobs`): round 2 decides to cancel job 1, fails before
    appending the canceled row, and the model accepts `persistJobs` from that failed round: job 1 is done on
    disk with no row.  (The real code writes job_status.json only inside `update_job_status`, which a round
    that failed while collecting never reaches; the model's guard `pc = failing` over-approximates.) -/
theorem done_without_result_witness :
    ((run (init demoScn) (round1 ++ [.persist 1] ++ node1 ++ round2 ++ [.fail 3, .persistJobs 3])).map fun s =>
      (s.disk.st 1, (allRows s).map (·.job))) = some (.done, [0]) := by decide

end Jade.C09
