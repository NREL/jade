import JadeModel.Model.Replica
import JadeModel.Props.Queue
import Std.Data.String.ToNat

/-!
Theorems about multi-node allocations (`Model/Replica.lean`), for every number of nodes, every batch and every
schedule of every node's queue.  Used by C03 / C08 (one row per job whatever the allocation size), C01 (each node
launches a job at most once) and C16 (the node lifecycle statements do not depend on the node id).
-/

namespace Jade.Replica
open Jade.Queue Jade.Gen.Queue Jade.QueueProps

theorem nodeId_zero_iff (i : Nat) : (nodeIdOf i == "0") = (i == 0) := by
  have h0 : Nat.repr 0 = "0" := by decide
  have h : Nat.repr i = "0" ↔ i = 0 := h0 ▸ Nat.repr_inj
  rw [Bool.eq_iff_iff, beq_iff_eq, beq_iff_eq]
  exact h

/-- which node is the manager: exactly node 0 (from the generated `am_i_manager`) -/
theorem manager_iff (base : Jade.Gen.Command.Ctx) (i : Nat) : (nodeCtx base i).isManager = (i == 0) := by
  simp [nodeCtx, Jade.Gen.Replica.amIManager, nodeId_zero_iff]

theorem records_eq (x : Jade.Gen.Command.Ctx) (st : RowStatus) : records x st = x.isManager := by
  cases st <;> simp [records, Jade.Gen.Command.completeRecords, Jade.Gen.Command.cancelRecords]

theorem recorded_nodeCtx (base : Jade.Gen.Command.Ctx) (i : Nat) (log : List Ev) :
    recorded (nodeCtx base i) log = if i = 0 then rowsOf log else [] := by
  by_cases hi : i = 0 <;> simp [recorded, records_eq, manager_iff, hi]

/-- a non-manager node records nothing, whatever its queue did -/
theorem worker_records_nothing (base : Jade.Gen.Command.Ctx) (i : Nat) (hi : i ≠ 0) (log : List Ev) :
    recorded (nodeCtx base i) log = [] := by
  rw [recorded_nodeCtx, if_neg hi]

/-- the manager node records every row of its queue -/
theorem manager_records_all (base : Jade.Gen.Command.Ctx) (log : List Ev) :
    recorded (nodeCtx base 0) log = rowsOf log := by
  rw [recorded_nodeCtx, if_pos rfl]

theorem recordedFrom_pos (base : Jade.Gen.Command.Ctx) (i : Nat) (hi : i ≠ 0) (a : Allocation) :
    recordedFrom base i a = [] := by
  induction a generalizing i with
  | nil => rfl
  | cons log rest ih =>
    simp [recordedFrom, worker_records_nothing base i hi, ih (i + 1) (by omega)]

/-- **What an allocation of any size records is what its manager node's queue logged**, nothing more. -/
theorem allocation_rows_eq_manager (base : Jade.Gen.Command.Ctx) (mgr : List Ev) (workers : Allocation) :
    allocationRows base (mgr :: workers) = rowsOf mgr := by
  simp [allocationRows, recordedFrom, manager_records_all, recordedFrom_pos]

/-- an allocation without nodes records nothing (never produced by an accepted `sbatch`) -/
theorem allocation_rows_nil (base : Jade.Gen.Command.Ctx) : allocationRows base [] = [] := rfl

/-- **One row per job whatever the number of nodes**: when every node's queue ran the batch's operations (each under
    its own schedule `opsOf i`, its own depth), the job column of everything the allocation recorded is duplicate-free. -/
theorem allocation_row_at_most_once (base : Jade.Gen.Command.Ctx) (d : Nat) (ops : List Op) (hd : Distinct ops)
    (workers : Allocation) :
    ((allocationRows base ((runOps d ops).log :: workers)).map (·.1)).Nodup := by
  rw [allocation_rows_eq_manager]
  exact row_at_most_once d ops hd

/-- …and when the manager's queue drained, every job of the batch has exactly one recorded row -/
theorem allocation_run_complete (base : Jade.Gen.Command.Ctx) (d : Nat) (ops : List Op) (hd : Distinct ops)
    (hdr : Drained (runOps d ops)) (workers : Allocation) :
    ∀ h ∈ handedOf ops, ∃ rc st, (h.id, rc, st) ∈ allocationRows base ((runOps d ops).log :: workers) ∧
      ∀ rc' st', (h.id, rc', st') ∈ allocationRows base ((runOps d ops).log :: workers) → rc' = rc ∧ st' = st := by
  rw [allocation_rows_eq_manager]
  exact run_complete d ops hd hdr

/-- each node launches each job at most once (its queue is the queue of `Model/Queue.lean`) -/
theorem node_launches_at_most_once (d : Nat) (ops : List Op) (hd : Distinct ops) (a : Allocation) (i : Nat)
    (hi : a.getD i [] = (runOps d ops).log) : (launchesOn a i).Nodup := by
  unfold launchesOn; rw [hi]; exact started_at_most_once d ops hd

/-- the node lifecycle statements of `JobRunner.run_jobs` are guarded by the configuration only (generated) -/
theorem node_hooks_on_every_node : Jade.Gen.Replica.nodeHooksOnEveryNode = true := by decide

/-- the runner hands the scheduler interface's answer to every job as its manager flag (generated) -/
theorem runner_flag_is_am_i_manager : Jade.Gen.Replica.runnerManagerFlag = "self._intf.am_i_manager()" := by decide

/-- the manager test and the node's name inside the allocation read the same variable (generated) -/
theorem manager_var_is_node_id : Jade.Gen.Replica.managerVar = Jade.Gen.Replica.nodeIdVar := by decide

/-! non-vacuity: a three-node allocation whose nodes all logged a finished and a canceled row records two rows -/
example : allocationRows ⟨"j", "c", "o", none, 1, false, 0⟩
    [[.start 0, .row 0 3 .finished, .row 1 1 .canceled], [.start 0, .row 0 3 .finished, .row 1 1 .canceled],
     [.start 0, .row 0 3 .finished, .row 1 1 .canceled]] = [(0, 3, .finished), (1, 1, .canceled)] := by decide

end Jade.Replica
