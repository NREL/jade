import JadeModel.Proofs.SystemGen
import JadeModel.Props.C08
import JadeModel.Proofs.ResultsFaultOnce
import JadeModel.Proofs.ResultsFaultBytes

/-!
# C08 under injected I/O errors and kills (the part of C11 that concerns result files)

`reachX ops` is the state of `Model/ResultsFault.lean` after an *arbitrary* list of operations of
the base model (`Props/C08.lean`) interleaved with: arming ONE `OSError` for a collector's next read
of a node file / append-open or write of the consolidated file / `os.remove` of a node file (the real
propagation follows: both locks released by the `finally`s, `process_results` raises, the round
returns nothing); killing a collector at any yield point or inside a step (after the append-open,
right after the removal: no `finally` runs, the markers stay); breaking the stale markers of dead
processes.  All statements are invariants proved by induction over `ops`, about the model whose
statement order inside `_move_results` (`Gen.moveOrder`: copy before removal) is regenerated from the
source on every run: with the removal before the copy `C08_fault_shape` and the lemmas below it do
not build.

What survives (at-least-once): no row is ever lost, whatever failed or died, no row is ever in
flight (removed from its node file but not yet in the consolidated file), and no row is ever reported
twice (an aborted or killed round returns nothing).  What does not survive, on the
unchanged code: a death between copy and removal, or a failed `os.remove`, leaves the rows of that
one node file in both files, and a later round collects them again; an aborted round returns
nothing, so the rows it had already moved are reported to no round (`demoAbort`).
-/

namespace Jade.C08
open Jade.Results Jade.Gen.Results

variable {ρ : Type}

abbrev reachX (ops : List (OpX ρ)) (created : Bool := true) : XState ρ (List ρ) :=
  runX (absOpsX ρ) (initX (absOpsX ρ) created) ops

abbrev reachBytesX (ops : List (OpX Row)) (created : Bool := true) : XState Row (List Char) :=
  runX byteOpsX (initX byteOpsX created) ops

theorem reachX_safe (ops : List (OpX ρ)) (created : Bool) : Safe (reachX ops created).base :=
  safe_runX (safe_init created) ops

/-- what the fault proofs use of the source (regenerated on every run): the copy precedes the removal,
    the consolidated file is opened for append, both sections release their lock in `finally` -/
theorem C08_fault_shape :
    moveOrder = [.read, .append, .remove] ∧ processedTruncates = false ∧ appendTruncates = false ∧
    moveUnderLock = true ∧ processUnderLock = true ∧ appendUnderLock = true ∧ releaseInFinally = true :=
  ⟨rfl, rfl, rfl, rfl, rfl, rfl, rfl⟩

/-- **No row is ever lost, whatever failed or died**: at every reachable state of every history with
    injected errors, kills and broken markers, every row ever appended by a runner or by a cancellation
    is in the consolidated file or in the node file of some batch. -/
theorem C08_no_loss_under_faults (ops : List (OpX ρ)) (created : Bool) (r : ρ) :
    let s := (reachX ops created).base
    r ∈ writtenRows s ++ canceledRows s → r ∈ consRows s ++ nodeRows s :=
  fun hr => (reachX_safe ops created).no_loss hr

/-- … the same, naming the file -/
theorem C08_no_loss_under_faults_file (ops : List (OpX ρ)) (created : Bool) (r : ρ) :
    let s := (reachX ops created).base
    r ∈ writtenRows s ++ canceledRows s →
      r ∈ consRows s ∨ ∃ (b : BatchId) (f : List ρ), s.node b = some f ∧ r ∈ f :=
  fun hr => (reachX_safe ops created).kept r hr

/-- A node file is removed only after its rows are in the consolidated file, also on every error path
    and at every point a process can die: a collector (alive or dead) inside `_move_results` of batch `b`
    holds that file's lock; until the copy the file is exactly what it read; once the removal has
    happened the rows are in the consolidated file; no rows are ever in flight. -/
theorem C08_removed_only_after_copied (ops : List (OpX ρ)) (created : Bool) (p : Pid) (b : BatchId)
    (rest : List BatchId) (acc buf : List ρ) (pc : List MoveAct) :
    let s := (reachX ops created).base
    s.coll p = .moving b rest acc buf pc →
      s.nodeLock b = some p ∧
      (removed pc = false → s.node b = some buf) ∧
      (copied pc = true → ∀ r ∈ buf, r ∈ consRows s) ∧
      (Coll.moving b rest acc buf pc).inFlight = [] :=
  fun hc => ((reachX_safe ops created).moving p b rest acc buf pc hc).spec

/-- An injected error leaves through the real `finally`s: after a failed read / append-open / write /
    removal the collector is out of its call (`process_results` raised: one more `raised` entry), both
    its locks are free again, every node file is as before and the consolidated file holds the same
    rows (a failed write left at most an empty new file). -/
theorem C08_injected_error_propagates (x : XState ρ (List ρ)) (p : Pid) (f : FaultAt) (y : XState ρ (List ρ))
    (b : BatchId) (rest : List BatchId) (acc buf : List ρ) (pc : List MoveAct)
    (hc : x.base.coll p = .moving b rest acc buf pc)
    (hy : moveArmed (absOpsX ρ) x p (.fail f) = some y) :
    y.base.coll p = .idle ∧ y.base.consLock = none ∧ y.base.nodeLock b = none ∧
    y.base.returned = x.base.returned ++ [(p, .raised)] ∧
    y.base.node = x.base.node ∧ consRows y.base = consRows x.base ∧ y.armed p = none := by
  unfold moveArmed at hy
  dsimp only at hy
  rw [hc] at hy
  cases pc with
  | nil => cases f <;> simp at hy
  | cons a pc =>
    cases a <;> cases f <;> simp at hy <;> subst hy <;>
      simp [raiseOut_eq, State.setColl, State.setNodeLock, XState.disarm, consRows, opened_rows]

/-- … and a failed read of the node file (`_get_results`): the lock just taken is released again, nothing
    on disk has changed, the round raises. -/
theorem C08_failed_read_propagates (x : XState ρ (List ρ)) (p : Pid) (b : BatchId) (rest : List BatchId)
    (acc : List ρ) (hc : x.base.coll p = .collecting (b :: rest) acc) (hl : x.base.nodeLock b = none) :
    (lockFailRead x p).base.coll p = .idle ∧ (lockFailRead x p).base.consLock = none ∧
    (lockFailRead x p).base.nodeLock b = none ∧
    (lockFailRead x p).base.returned = x.base.returned ++ [(p, .raised)] ∧
    (lockFailRead x p).base.node = x.base.node ∧ (lockFailRead x p).base.cons = x.base.cons ∧
    (lockFailRead x p).armed p = none := by
  rw [lockFailRead_eq]
  simp [hc, hl, raiseOut_eq, State.setColl, State.setNodeLock, XState.disarm]

/-- **No row is ever reported twice, whatever failed or died**: the rows returned by all finished
    `process_results()` calls, the rows the round in progress (alive or dead) has taken out of node files and
    not yet returned, and the rows still in node files are distinct occurrences of rows written by runners.
    (An aborted or killed round drops its claim: those rows are then reported to no round.) -/
theorem C08_reported_at_most_once_under_faults [DecidableEq ρ] (ops : List (OpX ρ)) (created : Bool) (a : ρ) :
    let s := (reachX ops created).base
    (returnedRows s).count a + (active s).claimed.count a + (nodeRows s).count a ≤ (writtenRows s).count a ∧
    (returnedRows s).count a ≤ (writtenRows s).count a := by
  have h : Once (reachX ops created).base := once_runX (once_init created) ops
  have := h.atMost a
  exact ⟨this, by omega⟩

/-- Also with dead processes and stale markers around, at most one collection is in progress at any time
    (alive or dead), and it is the holder of the consolidated lock: a dead collector blocks every other
    round until its marker is broken, and breaking it ends its round for good. -/
theorem C08_one_collection_under_faults [DecidableEq ρ] (ops : List (OpX ρ)) (created : Bool) :
    let s := (reachX ops created).base
    (∀ p : Pid, s.consLock = some p ↔ s.coll p ≠ .idle) ∧
    (∀ p q : Pid, s.coll p ≠ .idle → s.coll q ≠ .idle → p = q) := by
  have h := (reachX_safe ops created).excl
  exact ⟨h, fun _ _ => h.unique⟩

/-- A dead process does nothing: every operation of a killed collector is a stutter. -/
theorem C08_dead_does_nothing (x : XState ρ (List ρ)) (op : Op ρ) (p : Pid) (hp : op.pid = some p)
    (hd : p ∈ x.dead) : stepX (absOpsX ρ) x (.base op) = x :=
  stepBase_dead _ x op p hp hd

/-- A history without fault operations runs exactly the base model: everything `Props/C08.lean` proves
    about `reach` / `reachBytes` holds for what the driver executes on such histories. -/
theorem C08_faultfree_is_base (ops : List (Op ρ)) (created : Bool) :
    (reachX (ops.map .base) created).base = reach ops created ∧
    (reachX (ops.map .base) created).dead = [] := by
  have := runX_base (absOpsX ρ) (initX (absOpsX ρ) created) ops rfl (fun _ => rfl)
  simp only [reachX, this]
  exact ⟨rfl, rfl⟩

theorem C08_faultfree_is_base_bytes (ops : List (Op Row)) (created : Bool) :
    (reachBytesX (ops.map .base) created).base = reachBytes ops created := by
  have := runX_base byteOpsX (initX byteOpsX created) ops rfl (fun _ => rfl)
  simp only [reachBytesX, this]
  rfl

/-! ## Byte level under faults (consolidated file created at the start: the normal flow) -/

/-- For every history with injected errors, kills and broken markers over legal rows, starting with the
    consolidated file created, the bytes of every file are `renderFile` of the rows the row-level model
    holds for it: what the driver executes (`byteOpsX`) is what the theorems above speak about.
    (Without the consolidated file a failed write / a death after the append-open leaves a 0-byte file,
    which has no row-level counterpart: that case is tied by the correspondence suite only.) -/
theorem C08_bytes_refine_under_faults (ops : List (OpX Row)) (hops : ∀ op ∈ ops, op.Legal) :
    reachBytesX ops true = renderX (reachX ops true) := by
  have := (render_runX (x := initX (absOpsX Row) true) bytesOk_init ops hops).1
  rwa [render_initX] at this

/-- … so the consolidated file and every node file parse at every instant, to exactly those rows, whatever
    failed or died. -/
theorem C08_files_parse_under_faults (ops : List (OpX Row)) (hops : ∀ op ∈ ops, op.Legal) :
    (∃ rows : List Row, (reachX ops true).base.cons = some rows ∧
      (reachBytesX ops true).base.cons = some (renderFile rows) ∧ parseFile (renderFile rows) = .ok rows) ∧
    ∀ b : BatchId, (reachBytesX ops true).base.node b = ((reachX ops true).base.node b).map renderFile ∧
      ∀ f, (reachX ops true).base.node b = some f → parseFile (renderFile f) = .ok f := by
  rw [C08_bytes_refine_under_faults ops hops]
  have hb := (render_runX (x := initX (absOpsX Row) true) bytesOk_init ops hops).2
  refine ⟨?_, fun b => ⟨rfl, fun f hf => parse_render f (hb.rows.node b f hf)⟩⟩
  obtain ⟨rows, hrows⟩ := Option.isSome_iff_exists.1 hb.cons
  exact ⟨rows, hrows, by simp [renderX, renderState, hrows],
    parse_render rows (by simpa [consRows, hrows] using hb.rows.cons)⟩

/-! ## Non-vacuity: concrete faulty histories (rows are numbers) -/

section Demo
open OpX

/-- collector 0 copies batch 1 and is killed before the removal; its steps do nothing any more; collector 1
    is blocked by the stale marker until it is broken, then collects the file again -/
def demoKill : List (OpX Nat) :=
  [base (.append 0 1 10), base (.beginCollect 0 [1]), base (.lockFile 0), base (.moveStep 0), kill 0,
   base (.moveStep 0), base (.beginCollect 1 [1]), breakLocks, base (.beginCollect 1 [1]), base (.lockFile 1),
   base (.moveStep 1), base (.moveStep 1), base (.endCollect 1)]

example : (reachX (demoKill.take 7)).base.consLock = some 0 ∧ (reachX (demoKill.take 7)).base.nodeLock 1 = some 0 ∧
    (reachX (demoKill.take 7)).base.node 1 = some [10] ∧ (reachX (demoKill.take 7)).base.cons = some [10] := by decide
/-- … j1 is in the consolidated file twice, but reported once -/
example : returnedRows (reachX demoKill).base = [10] ∧ writtenRows (reachX demoKill).base = [10] := by decide
example : (reachX demoKill).base.cons = some [10, 10] ∧ (reachX demoKill).base.dir = [] ∧
    (reachX demoKill).base.returned = [(1, .rows [10])] ∧ (reachX demoKill).dead = [0] ∧
    (reachX demoKill).base.consLock = none := by decide

/-- two files in one round; the append-open for the second one fails: the round raises, both locks are
    free, the second file is untouched, the rows of the first one are in the consolidated file and were
    returned to no round -/
def demoAbort : List (OpX Nat) :=
  [base (.append 0 1 10), base (.append 1 2 20), base (.beginCollect 0 [1, 2]), base (.lockFile 0), base (.moveStep 0),
   base (.moveStep 0), arm 0 (.fail .open), base (.lockFile 0), base (.moveStep 0)]

example : (reachX demoAbort).base.cons = some [10] ∧ (reachX demoAbort).base.node 2 = some [20] ∧
    (reachX demoAbort).base.returned = [(0, .raised)] ∧ (reachX demoAbort).base.consLock = none ∧
    (reachX demoAbort).base.nodeLock 2 = none ∧ returnedRows (reachX demoAbort).base = [] := by decide

/-- a failed write / a death after the append-open creates the consolidated file (empty) when it did not exist -/
example : (reachX [base (.append 0 1 10), base (.beginCollect 0 [1]), base (.lockFile 0), arm 0 (.fail .write),
      base (.moveStep 0)] false).base.cons = some [] ∧
    (reachX [base (.append 0 1 10), base (.beginCollect 0 [1]), base (.lockFile 0), arm 0 (.die .opened),
      base (.moveStep 0)] false).dead = [0] := by decide

/-- a failed `os.remove`: the rows stay in both files, the round raises -/
example : (reachX [base (.append 0 1 10), base (.beginCollect 0 [1]), base (.lockFile 0), base (.moveStep 0),
      arm 0 (.fail .remove), base (.moveStep 0)]).base.cons = some [10] ∧
    (reachX [base (.append 0 1 10), base (.beginCollect 0 [1]), base (.lockFile 0), base (.moveStep 0),
      arm 0 (.fail .remove), base (.moveStep 0)]).base.node 1 = some [10] := by decide

/-- a death right after the removal: the node lock stays, the rows are in the consolidated file only -/
example : (reachX [base (.append 0 1 10), base (.beginCollect 0 [1]), base (.lockFile 0), base (.moveStep 0),
      arm 0 (.die .removed), base (.moveStep 0)]).base.nodeLock 1 = some 0 ∧
    (reachX [base (.append 0 1 10), base (.beginCollect 0 [1]), base (.lockFile 0), base (.moveStep 0),
      arm 0 (.die .removed), base (.moveStep 0)]).base.node 1 = none ∧
    (reachX [base (.append 0 1 10), base (.beginCollect 0 [1]), base (.lockFile 0), base (.moveStep 0),
      arm 0 (.die .removed), base (.moveStep 0)]).base.cons = some [10] := by decide

/-- byte level: an empty consolidated file left by a failed write gets its header with the next rows -/
example : (reachBytesX [base (.append 0 1 (row 1)), base (.beginCollect 0 [1]), base (.lockFile 0),
      arm 0 (.fail .write), base (.moveStep 0)] false).base.cons = some [] ∧
    (reachBytesX [base (.append 0 1 (row 1)), base (.beginCollect 0 [1]), base (.lockFile 0),
      arm 0 (.fail .write), base (.moveStep 0), base (.beginCollect 1 [1]), base (.lockFile 1), base (.moveStep 1)]
      false).base.cons = some (renderFile [row 1]) := by decide

end Demo

end Jade.C08
