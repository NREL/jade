import JadeModel.Proofs.SystemRows
import JadeModel.Props.Queue
import JadeModel.Props.C07
import JadeModel.Props.C01

/-!
# C02 — no job starts before every job blocking it has a recorded outcome

* System level (`Jade.Sys`, all scenarios, all op sequences — kills and failures included): the three
  hand-overs of the remaining-blockers set (status file → batch file → node queue) never drop a
  blocker that has no row yet, so at every accepted `nodeStart` all configured blockers have rows.
* Node level (`Jade.QueueProps`, the real `JobQueue` algorithm, also the whole of local mode where one
  queue runs the entire configuration): re-exported below.
* The batching rule that makes the hand-over sound (a blocked job is batched only with all its
  remaining blockers) is `C07_batches_wellformed`.
-/

namespace Jade.C02
open Jade.Sys

/-- **System theorem.** In every reachable state, whenever the start of job `j` is accepted, every
    job named in `j`'s configured `blocked_by` list has a result row on disk at that instant. -/
theorem C02_start_after_blockers (sc : Scn) (ops : List Op) (s s' : Sys) (p : Pid) (j : JobId)
    (h : run (init sc) ops = some s) (hs : step s (.nodeStart p j) = some s') :
    ∀ b ∈ sc.blockers j, HasRow s b := by
  have hi := blockInv_run ops (blockInv_init sc) h
  have hsc : s.sc = sc := by rw [sc_run ops h]; rfl
  rw [← hsc]
  exact start_has_rows hi p j (step_sound hs)

/-- …and that outcome stays on disk whatever happens afterwards (so "has an outcome" is stable) -/
theorem C02_outcome_stays (s s' : Sys) (ops : List Op) (h : run s ops = some s') (r : Row)
    (hr : RowOnDisk s r) : RowOnDisk s' r :=
  rowOnDisk_run ops h r hr

/-- the invariant behind it, for every reachable state: wherever a job waits (status file, role
    holder's memory, batch file, node queue) each configured blocker is still listed or has a row -/
theorem C02_blockers_tracked (sc : Scn) (ops : List Op) (s : Sys) (h : run (init sc) ops = some s) :
    BlockInv s :=
  blockInv_run ops (blockInv_init sc) h

/-! ## Node level / local mode (the real `JobQueue` algorithm) -/

/-- a step of the queue launches only jobs whose remaining blocker list is empty -/
theorem C02_queue_started_only_unblocked : type_of% @Jade.QueueProps.started_only_unblocked := @Jade.QueueProps.started_only_unblocked

/-- for any interleaving of submit / process_queue: when `j` is launched every blocker handed to the
    queue with `j` has a row written earlier -/
theorem C02_queue_start_after_blockers : type_of% @Jade.QueueProps.start_after_blockers := @Jade.QueueProps.start_after_blockers

/-- a blocker leaves a queued job's list only once it has a row -/
theorem C02_queue_blocker_removed_only_on_completion : type_of% @Jade.QueueProps.blocker_removed_only_on_completion := @Jade.QueueProps.blocker_removed_only_on_completion

/-- the batching rule: a job with unfinished blockers is in a batch only together with all of them -/
theorem C02_blocked_only_with_blockers : type_of% @Jade.C07.C07_batches_wellformed := @Jade.C07.C07_batches_wellformed

/-! ## Non-vacuity: the demo run of C01 extended by a dependent job starting after its blocker -/

example : ((run (init Jade.C01.demoScn)
    [.spawnSub 1 false, .promote 1, .passEnd 1 [], .collectDone 1, .mark 1, .sbatch 1 [0, 2] (some 100),
     .persist 1, .unmark 1, .demote 1, .exit 1, .startBatch 100 2 2, .nodeStart 2 0, .nodeRow 2 0,
     .nodeStart 2 2]).map fun s => s.starts.map (·.1)) = some [0, 2] := by decide

/-- …and the dependent job cannot start first -/
example : (run (init Jade.C01.demoScn)
    [.spawnSub 1 false, .promote 1, .passEnd 1 [], .collectDone 1, .mark 1, .sbatch 1 [0, 2] (some 100),
     .persist 1, .unmark 1, .demote 1, .exit 1, .startBatch 100 2 2, .nodeStart 2 2]).isNone = true := by decide

end Jade.C02
