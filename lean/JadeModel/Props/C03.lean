import JadeModel.Proofs.SystemOutcome
import JadeModel.Proofs.RefBridge
import JadeModel.Proofs.SystemGate
import JadeModel.Props.Queue
import JadeModel.Props.C01
import JadeModel.Props.C20

/-!
# C03 — results are the reference evaluation of the dependency graph, whatever the schedule

* `Jade.Ref.ref` is the reference: evaluate the graph in dependency order with the jobs' exit codes
  (`evalJob`: canceled iff flagged and some blocker failed / was canceled, otherwise the exit code).
* System level (`Jade.Sys`): **for every scenario and every op sequence** — every batching the submit
  loop may choose (`sbatch` takes any job set passing the C07 guard), every node limit, every
  interleaving of submitters and nodes, and also every kill / write failure — each row that is ever on
  disk (node file or consolidated file) equals the reference outcome of its job.  Two executions of the
  same configuration therefore agree on every job both have a row for (`C03_schedule_independent`).
* Node level and local mode (`Jade.QueueProps`, the real JobQueue algorithm): a drained queue has
  exactly one row per job, equal to the reference (`rows_eq_ref`, `run_complete`, `run_drains`).
* Completeness ("no missing job at completion") is a liveness statement about fault-free runs.  Proved
  here: the summary lists exactly the consolidated rows plus the jobs without a row (C20 tally), the
  non-forced completion decision is taken only when every job is done, and a quiescent round with an empty
  active set always completes (C05).  The remaining step — in a fault-free run the forced branch is never
  taken with an unfinished job — is `C03_complete_no_missing` (`Props/C03Live.lean`, over `runP`).
-/

namespace Jade.C03
open Jade.Sys Jade.Ref

/-- **System theorem.** In every reachable state every row on disk carries the reference outcome
    of its job (classification *and* return code). -/
theorem C03_rows_equal_reference (sc : Scn) (rank : JobId → Nat) (hac : Acyclic sc.graph rank)
    (ops : List Op) (s : Sys) (h : run (init sc) ops = some s) (r : Row) (hr : OnDisk s r) (hj : r.job < sc.n) :
    r.outcome = ref sc.graph r.job := by
  have hb := (outcome_reach sc ops s h).2
  have hsc : s.sc = sc := by rw [sc_run ops h]; rfl
  have hl := outcome_local hb
  rw [hsc] at hl
  exact local_gives_ref sc.graph rank hac _ _ hl r.job hj r.outcome ⟨r, hr, rfl, rfl⟩

/-- successful / failed / canceled, as `Result.is_successful/is_failed/is_canceled` classify -/
inductive Class where | successful | failed | canceled
  deriving DecidableEq, Repr

def classify (o : Outcome) : Class :=
  if o.canceled then .canceled else if o.rc = 0 then .successful else .failed

theorem C03_classification (sc : Scn) (rank : JobId → Nat) (hac : Acyclic sc.graph rank)
    (ops : List Op) (s : Sys) (h : run (init sc) ops = some s) (r : Row) (hr : OnDisk s r) (hj : r.job < sc.n) :
    classify r.outcome = classify (ref sc.graph r.job) := by
  rw [C03_rows_equal_reference sc rank hac ops s h r hr hj]

/-- **Independence.** Two scenarios with the same jobs (same graph, flags, exit codes) but any node
    limits, run under any two op sequences (any batching, interleaving, faults): a job that has a row in
    both has the same outcome in both. -/
theorem C03_schedule_independent (sc sc' : Scn) (hg : sc.graph = sc'.graph)
    (rank : JobId → Nat) (hac : Acyclic sc.graph rank)
    (ops ops' : List Op) (s s' : Sys) (h : run (init sc) ops = some s) (h' : run (init sc') ops' = some s')
    (r r' : Row) (hr : OnDisk s r) (hr' : OnDisk s' r') (hjob : r.job = r'.job) (hj : r.job < sc.n) :
    r.outcome = r'.outcome := by
  have hn : sc.n = sc'.n := congrArg Graph.n hg
  rw [C03_rows_equal_reference sc rank hac ops s h r hr hj,
      C03_rows_equal_reference sc' rank (hg ▸ hac) ops' s' h' r' hr' (by rw [← hjob, ← hn]; exact hj), hg, hjob]

/-- within one execution a job never has two different rows (duplicates after a crash are identical
    in classification and return code) -/
theorem C03_rows_agree (sc : Scn) (rank : JobId → Nat) (hac : Acyclic sc.graph rank)
    (ops : List Op) (s : Sys) (h : run (init sc) ops = some s) (r r' : Row) (hr : OnDisk s r) (hr' : OnDisk s r')
    (hjob : r.job = r'.job) (hj : r.job < sc.n) : r.outcome = r'.outcome :=
  C03_schedule_independent sc sc rfl rank hac ops ops s s h h r r' hr hr' hjob hj

/-- a finished row is real: the job was started and the row carries its exit code -/
theorem C03_finished_row_real (sc : Scn) (ops : List Op) (s : Sys) (h : run (init sc) ops = some s)
    (r : Row) (hr : OnDisk s r) (hc : r.canceled = false) : r.rc = sc.rc r.job ∧ StartedJ s r.job := by
  have hb := (outcome_reach sc ops s h).2
  have hsc : s.sc = sc := by rw [sc_run ops h]; rfl
  rw [← hsc]
  exact hb.lc1 r hr hc

/-- rows are never lost nor rewritten afterwards -/
theorem C03_rows_stay : type_of% @Jade.Sys.rowOnDisk_run := @Jade.Sys.rowOnDisk_run

/-- the completion flag is set at most once per submission (no second summary) -/
theorem C03_complete_once (sc : Scn) (ops : List Op) (s : Sys) (h : run (init sc) ops = some s) : GateInv s :=
  gateInv_run ops (gateInv_init sc) h

/-! ## Node level / local mode: complete and equal to the reference -/

theorem C03_queue_rows_eq_ref : type_of% @Jade.QueueProps.rows_eq_ref := @Jade.QueueProps.rows_eq_ref
theorem C03_queue_independent_of_schedule : type_of% @Jade.QueueProps.run_independent_of_schedule := @Jade.QueueProps.run_independent_of_schedule
theorem C03_queue_one_row_per_job : type_of% @Jade.QueueProps.run_complete := @Jade.QueueProps.run_complete
theorem C03_queue_row_at_most_once : type_of% @Jade.QueueProps.row_at_most_once := @Jade.QueueProps.row_at_most_once
theorem C03_queue_drains : type_of% @Jade.QueueProps.run_drains := @Jade.QueueProps.run_drains

/-- **Local mode = HPC mode.** Run the whole configuration through one `JobQueue` (what local mode
    does), with any worker count and poll schedule, to the end; run it on the HPC under any op sequence.
    Every row the HPC run ever has on disk is a row of the local run (same job, same return code, same
    finished/canceled status). -/
theorem C03_local_equals_hpc (sc : Scn) (rank : JobId → Nat) (hac : Acyclic sc.graph rank)
    (d : Nat) (sched : List (List Jade.Queue.Poll)) (hs : Jade.QueueProps.SchedOk sc.rc sched)
    (r : Jade.Queue.RunOut) (hr : Jade.Queue.runAll d (Jade.RefBridge.jobsOf sc) sched = .ok r) (hdr : r.drained = true)
    (ops : List Op) (s : Sys) (h : run (init sc) ops = some s) (R : Row) (hR : OnDisk s R) (hj : R.job < sc.n) :
    (R.job, (Jade.RefBridge.toPair R.outcome).1, (Jade.RefBridge.toPair R.outcome).2) ∈ r.final.rows := by
  have hn : ((Jade.RefBridge.jobsOf sc).map (·.id)).Nodup := by
    have : (Jade.RefBridge.jobsOf sc).map (·.id) = List.range sc.n := by
      simp [Jade.RefBridge.jobsOf, List.map_map, Function.comp_def]
    rw [this]; exact List.nodup_range
  have hlen : (Jade.RefBridge.jobsOf sc).length = sc.n := by simp [Jade.RefBridge.jobsOf]
  have hmem : ∀ x ∈ Jade.RefBridge.jobsOf sc, x.id < sc.n ∧ x.blockers = sc.blockers x.id := by
    intro x hx
    simp only [Jade.RefBridge.jobsOf, List.mem_map, List.mem_range] at hx
    obtain ⟨j, hj, rfl⟩ := hx
    exact ⟨hj, rfl⟩
  have hca : Jade.Queue.ClosedAcyclic (Jade.RefBridge.jobsOf sc) := by
    refine ⟨?_, rank, ?_⟩
    · intro x hx b hb
      obtain ⟨hxn, hxb⟩ := hmem x hx
      rw [hxb] at hb
      have hbn := hac.inside x.id hxn b hb
      exact ⟨{ id := b, blockers := sc.blockers b, cancelFlag := sc.flag b },
        by simp only [Jade.RefBridge.jobsOf, List.mem_map, List.mem_range]; exact ⟨b, hbn, rfl⟩, rfl⟩
    · intro x hx
      obtain ⟨hxn, hxb⟩ := hmem x hx
      refine ⟨by rw [hlen]; exact hac.bound x.id hxn, ?_⟩
      intro b hb
      rw [hxb] at hb
      exact hac.lt x.id hxn b hb
  rw [Jade.QueueProps.rows_eq_ref d _ sched sc.rc hn hca hs r hr hdr]
  refine ⟨{ id := R.job, blockers := sc.blockers R.job, cancelFlag := sc.flag R.job },
    by simp only [Jade.RefBridge.jobsOf, List.mem_map, List.mem_range]; exact ⟨R.job, hj, rfl⟩, rfl, ?_⟩
  rw [Jade.RefBridge.ref_eq sc hac.inside R.job hj, ← C03_rows_equal_reference sc rank hac ops s h R hR hj]

/-- results.json: successful + failed + canceled + missing = configured jobs -/
theorem C03_summary_tally : type_of% @Jade.C20.tally_sum := @Jade.C20.tally_sum

/-! ## Non-vacuity -/

def demoScn : Scn := { n := 4, blockers := fun j => if j = 1 then [0] else if j = 2 then [1] else if j = 3 then [1] else [],
                       flag := fun j => j = 1 || j = 2, rc := fun j => if j = 0 then 3 else 0, maxNodes := 2 }

example : Acyclic demoScn.graph (fun j => j) := by
  refine ⟨?_, ?_, fun j hj => hj⟩ <;> intro j hj b hb <;> simp only [demoScn, Scn.graph] at * <;>
    (repeat' split at hb) <;> simp_all <;> omega

/-- job 0 fails on a node; job 1 (flagged) is canceled by the node, job 2 (flagged, next batch) by the
    submitter, job 3 (unflagged) runs: the rows are the reference outcomes -/
def demoOps : List Op :=
  [.spawnSub 1 false, .promote 1, .passEnd 1 [], .collectDone 1, .mark 1, .sbatch 1 [0, 1] (some 100),
   .persist 1, .unmark 1, .demote 1, .exit 1,
   .startBatch 100 2 2, .nodeStart 2 0, .nodeRow 2 0, .nodeCancel 2 1,
   .spawnSub 3 false, .promote 3, .poll 3 [], .collectFile 3 1, .passEnd 3 [2], .cancelRow 3 2, .passEnd 3 [],
   .collectDone 3, .mark 3, .sbatch 3 [3] (some 101), .persist 3]

example : ((run (init demoScn) demoOps).map fun s => (s.processed.map fun r => (r.job, r.outcome)))
    = some [(0, ⟨false, 3⟩), (1, ⟨true, 1⟩), (2, ⟨true, 1⟩)] := by decide

example : (List.range 4).map (ref demoScn.graph) = [⟨false, 3⟩, ⟨true, 1⟩, ⟨true, 1⟩, ⟨false, 0⟩] := by decide

end Jade.C03
