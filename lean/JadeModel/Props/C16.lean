import JadeModel.Proofs.Lifecycle
import JadeModel.Gen.Replica

/-!
# C16 — setup and teardown commands run exactly once, at the right time

All theorems are about `Jade.Lifecycle` (Model/Lifecycle.lean): the interpreter of the programs generated from
`JobSubmitter.submit_jobs`, `JobSubmitter._handle_completion`, `JobRunner.run_jobs` and `jade-internal run-jobs` of the
working tree.  They hold for **all** configurations (the four commands independently set or unset), all return codes
of the commands, local and HPC mode, every list of batches, every queue run on a node (any list of job starts and
result rows: all schedules inside a batch), every list of calls of `submit_jobs` over the life of a submission
(any number of try-submits, resubmissions and completions), every set of result rows at completion (jobs passed,
failed, canceled or missing), and — `C16_setup_before_every_node_event` — every interleaving of the processes.
Hypothesis throughout: `NoLegacy cfg`, the obsolete per-group `node_setup_script`/`node_shutdown_script` are unset
(they are not among the four commands of the property; when set they replace the node commands).

What the code does when a command FAILS is stated, not hidden: a failing `setup_command` / `node_setup_command`
aborts (`check_run_command` raises) — `C16_failing_setup_stops`, `C16_failing_node_setup_aborts`; a failing
`teardown_command` / `node_teardown_command` changes nothing (`C16_commands_transparent_*`).
-/

namespace Jade.C16
open Jade.Lifecycle Jade.Gen.Lifecycle

/-! ## A. The exact trace of every call and every node -/

/-- one call of `submit_jobs`: setup (new submission only), then either nothing (setup failed), or the in-process
    runner and the completion (local mode), or the `sbatch` calls and — if `HpcSubmitter.run` reports completion —
    the completion: summary, teardown, (reports,) flag, (next stage) -/
theorem C16_round_trace (cfg : Cfg) (r : Round) (hl : NoLegacy cfg) :
    roundTrace cfg r = submitTrace (r.ctxFor cfg) ∧ roundErr cfg r = submitErr (r.ctxFor cfg) :=
  ⟨roundTrace_eq cfg r hl, roundErr_eq cfg r hl⟩

/-- one node: node setup, the whole queue run, node teardown, the node's try-submit -/
theorem C16_node_trace (cfg : Cfg) (c : Ctx) (hl : NoLegacy cfg) :
    nodeTrace cfg c = nodeCliTrace { c with cfg := cfg } ∧ nodeErr cfg c = nodeCliErr { c with cfg := cfg } :=
  ⟨nodeTrace_eq cfg c hl, nodeErr_eq cfg c hl⟩

/-- local mode, nothing fails: the complete order of one submission -/
theorem C16_local_order (cfg : Cfg) (r : Round) (hl : NoLegacy cfg) (hloc : r.ctx.isLocal = true)
    (h1 : setupFails (r.ctxFor cfg) = false) (h2 : nodeSetupFails (r.ctxFor cfg) = false) :
    roundTrace cfg r =
      setupEvs (r.ctxFor cfg) ++ nodeSetupEvs (r.ctxFor cfg) ++ queueEvs (r.ctxFor cfg) ++
        nodeTeardownEvs (r.ctxFor cfg) ++ [.collect] ++
        [.summary r.ctx.rows (missingJobs r.ctx.jobs r.ctx.rows)] ++ teardownEvs (r.ctxFor cfg) ++
        reportsEvs (r.ctxFor cfg) ++ [.flag] ++ nextStageEvs (r.ctxFor cfg) := by
  have hloc' : (r.ctxFor cfg).isLocal = true := hloc
  rw [roundTrace_eq cfg r hl]
  have hr : (r.ctxFor cfg).rows = r.ctx.rows := rfl
  have hj : (r.ctxFor cfg).jobs = r.ctx.jobs := rfl
  simp [submitTrace, beforeCompletion, afterSetup, completes, completionEvs, runnerEvs, h1, h2, hloc', hr, hj]

/-! ## B. Only configured commands run, with the documented environment -/

theorem C16_round_commands (cfg : Cfg) (r : Round) (hl : NoLegacy cfg) (h : Hook) (env : List EnvVar) (rc : Int)
    (he : Ev.hook h env rc ∈ roundTrace cfg r) :
    cfg.has h = true ∧ env = documentedEnv h ∧ rc = r.ctx.rc.of h := by
  rw [roundTrace_eq cfg r hl] at he
  exact submitTrace_documented (r.ctxFor cfg) _ he h env rc rfl

theorem C16_node_commands (cfg : Cfg) (c : Ctx) (hl : NoLegacy cfg) (h : Hook) (env : List EnvVar) (rc : Int)
    (he : Ev.hook h env rc ∈ nodeTrace cfg c) :
    cfg.has h = true ∧ env = documentedEnv h ∧ rc = c.rc.of h := by
  rw [nodeTrace_eq cfg c hl] at he
  exact nodeCliTrace_documented { c with cfg := cfg } _ he h env rc rfl

/-! ## C. Setup: once, first, only for the new submission -/

/-- try-submit and resubmit calls never run the setup command -/
theorem C16_no_setup_after_first_call (cfg : Cfg) (r : Round) (hl : NoLegacy cfg) (hr : r.entry ≠ .submitJobs) :
    ∀ e ∈ roundTrace cfg r, e.isHookOf .setup = false := by
  have hn : (r.ctxFor cfg).isNew = false := Bool.eq_false_iff.2 fun h => hr ((entryIsNew_iff _).1 h)
  intro e he
  rw [roundTrace_eq cfg r hl, submitTrace, beforeCompletion, setupEvs_of_not_new _ hn, List.nil_append] at he
  exact setup_free_after_setup _ e he

theorem C16_later_calls_setup_free (cfg : Cfg) (rest : List Round) (hl : NoLegacy cfg)
    (h : ∀ x ∈ rest, x.entry ≠ .submitJobs) : ∀ e ∈ submitSide cfg rest, e.isHookOf .setup = false := by
  intro e he
  simp only [submitSide, List.mem_flatMap] at he
  obtain ⟨r, hr, he⟩ := he
  exact C16_no_setup_after_first_call cfg r hl (h r hr) e he

/-- a configured setup command is the very first event of the submit side of every history, and it never runs again —
    whatever happens later (try-submits, cancel, any number of resubmissions and completions) -/
theorem C16_setup_first (cfg : Cfg) (rs : List Round) (hl : NoLegacy cfg) (hh : History rs)
    (hs : cfg.setup = true) :
    ∃ rc tl, submitSide cfg rs = .hook .setup [.runtimeOutput] rc :: tl ∧ ∀ e ∈ tl, e.isHookOf .setup = false := by
  obtain ⟨r, rest, rfl, hr, hrest⟩ := hh
  have hn : (r.ctxFor cfg).isNew = true := (entryIsNew_iff r.entry).2 hr
  refine ⟨(r.ctxFor cfg).rc.setup, (afterSetup (r.ctxFor cfg) ++
      if completes (r.ctxFor cfg) then completionEvs (r.ctxFor cfg) else []) ++ submitSide cfg rest, ?_, ?_⟩
  · simp [submitSide, roundTrace_eq cfg r hl, submitTrace, beforeCompletion, setupEvs_of_new _ hn hs]
  · intro e he
    rcases List.mem_append.1 he with he | he
    · exact setup_free_after_setup _ e he
    · exact C16_later_calls_setup_free cfg rest hl hrest e he

/-- setup runs exactly once over the whole history if it is configured, never otherwise -/
theorem C16_setup_exactly_once (cfg : Cfg) (rs : List Round) (hl : NoLegacy cfg) (hh : History rs) :
    (submitSide cfg rs).countP (·.isHookOf .setup) = if cfg.setup then 1 else 0 := by
  cases hs : cfg.setup
  · simp only [Bool.false_eq_true, if_false, List.countP_eq_zero]
    intro e he
    simp only [submitSide, List.mem_flatMap] at he
    obtain ⟨r, _, he⟩ := he
    cases e with
    | hook h env rc =>
      have := (C16_round_commands cfg r hl h env rc he).1
      cases h <;> simp_all [Ev.isHookOf, Cfg.has]
    | _ => simp [Ev.isHookOf]
  · obtain ⟨rc, tl, h1, h2⟩ := C16_setup_first cfg rs hl hh hs
    have h0 : tl.countP (·.isHookOf .setup) = 0 := by
      rw [List.countP_eq_zero]; intro e he; simp [h2 e he]
    rw [h1, List.countP_cons, h0]
    simp [Ev.isHookOf]

/-- every other event of the submit side — every `sbatch`, in local mode every job start — comes after the setup command -/
theorem C16_setup_before_everything (cfg : Cfg) (rs : List Round) (hl : NoLegacy cfg) (hh : History rs)
    (hs : cfg.setup = true) (pre post : List Ev) (e : Ev) (hsplit : submitSide cfg rs = pre ++ e :: post)
    (he : e.isHookOf .setup = false) : ∃ rc, Ev.hook .setup [.runtimeOutput] rc ∈ pre := by
  obtain ⟨rc, tl, h1, _⟩ := C16_setup_first cfg rs hl hh hs
  rw [h1] at hsplit
  cases pre with
  | nil =>
    simp at hsplit
    rw [← hsplit.1] at he
    simp [Ev.isHookOf] at he
  | cons x pre' =>
    simp at hsplit
    exact ⟨rc, by rw [← hsplit.1]; simp⟩

/-- in particular: before any batch is handed to the HPC -/
theorem C16_setup_before_sbatch (cfg : Cfg) (rs : List Round) (hl : NoLegacy cfg) (hh : History rs)
    (hs : cfg.setup = true) (pre post : List Ev) (b : Nat) (hsplit : submitSide cfg rs = pre ++ .sbatch b :: post) :
    ∃ rc, Ev.hook .setup [.runtimeOutput] rc ∈ pre :=
  C16_setup_before_everything cfg rs hl hh hs pre post (.sbatch b) hsplit rfl

/-- what the code does when the setup command fails: the call raises right there; nothing is handed to the HPC by it -/
theorem C16_failing_setup_stops (cfg : Cfg) (r : Round) (hl : NoLegacy cfg) (hr : r.entry = .submitJobs)
    (hs : cfg.setup = true) (hf : r.ctx.rc.setup ≠ 0) :
    roundTrace cfg r = [.hook .setup [.runtimeOutput] r.ctx.rc.setup] ∧ roundErr cfg r = some .execError := by
  have hn : (r.ctxFor cfg).isNew = true := (entryIsNew_iff r.entry).2 hr
  have hrc : (r.ctxFor cfg).rc = r.ctx.rc := rfl
  have hn' : entryIsNew r.entry = true := hn
  have hfail : setupFails (r.ctxFor cfg) = true := by
    simp [setupFails, hn', hs, hrc, (commandFailed_iff _).2 hf]
  rw [roundTrace_eq cfg r hl, roundErr_eq cfg r hl]
  simp [submitTrace, beforeCompletion, afterSetup, completes, submitErr, hfail, setupEvs_of_new _ hn (by simpa using hs), hrc]

/-! ## D. Teardown: exactly once per completion, after the summary, before the flag -/

/-- per call: the flag is set once iff the call reaches the completion; the teardown command runs once iff it is
    configured and the call reaches the completion — for every set of results and every return code -/
theorem C16_round_counts (cfg : Cfg) (r : Round) (hl : NoLegacy cfg) :
    (roundTrace cfg r).countP (·.isFlag) = (if completes (r.ctxFor cfg) then 1 else 0) ∧
    (roundTrace cfg r).countP (·.isHookOf .teardown) = (if cfg.teardown && completes (r.ctxFor cfg) then 1 else 0) := by
  rw [roundTrace_eq cfg r hl]
  exact ⟨submitTrace_count_flag _, submitTrace_count_teardown _⟩

/-- over ANY sequence of calls: as many teardown runs as completions (none if no teardown command is configured) -/
theorem C16_teardown_once_per_completion (cfg : Cfg) (rs : List Round) (hl : NoLegacy cfg) :
    (submitSide cfg rs).countP (·.isHookOf .teardown) =
      if cfg.teardown then (submitSide cfg rs).countP (·.isFlag) else 0 := by
  induction rs with
  | nil => simp [submitSide]
  | cons r rs ih =>
    have h := C16_round_counts cfg r hl
    simp only [submitSide, List.flatMap_cons, List.countP_append] at ih ⊢
    rw [ih, h.1, h.2]
    cases cfg.teardown <;> simp

/-- position of every teardown run in every history: immediately after a results summary, and followed — with only the
    report generation in between — by the completion flag; with the documented environment -/
theorem C16_teardown_after_summary_before_flag (cfg : Cfg) (rs : List Round) (hl : NoLegacy cfg)
    (pre post : List Ev) (env : List EnvVar) (rc : Int)
    (hsplit : submitSide cfg rs = pre ++ .hook .teardown env rc :: post) :
    ∃ pre' post' rows missing, pre = pre' ++ [.summary rows missing] ∧
      post = (if cfg.reports then [.reports] else []) ++ .flag :: post' ∧ env = [.runtimeOutput] := by
  obtain ⟨rs1, r, rs2, p, q, _, hr, hpre, hpost⟩ := flatMap_split (roundTrace cfg) hsplit
  rw [roundTrace_eq cfg r hl] at hr
  obtain ⟨e1, e2, e3, _, _, _⟩ := submitTrace_split_teardown (r.ctxFor cfg) p q env rc hr
  refine ⟨rs1.flatMap (roundTrace cfg) ++ beforeCompletion (r.ctxFor cfg),
    nextStageEvs (r.ctxFor cfg) ++ rs2.flatMap (roundTrace cfg),
    (r.ctxFor cfg).rows, missingJobs (r.ctxFor cfg).jobs (r.ctxFor cfg).rows, ?_, ?_, e3⟩
  · rw [hpre, e1]; simp
  · rw [hpost, e2]; simp only [List.append_assoc, List.cons_append]; rfl

/-- every completion flag of every history is preceded by the results summary, then the teardown command iff one is
    configured (then the report generation iff enabled): the flag is never set before the teardown ran -/
theorem C16_flag_after_teardown (cfg : Cfg) (rs : List Round) (hl : NoLegacy cfg) (pre post : List Ev)
    (hsplit : submitSide cfg rs = pre ++ .flag :: post) :
    ∃ pre' rows missing rc, pre = pre' ++ [.summary rows missing] ++
      (if cfg.teardown then [.hook .teardown [.runtimeOutput] rc] else []) ++ (if cfg.reports then [.reports] else []) := by
  obtain ⟨rs1, r, rs2, p, q, _, hr, hpre, hpost⟩ := flatMap_split (roundTrace cfg) hsplit
  rw [roundTrace_eq cfg r hl] at hr
  obtain ⟨e1, _, _⟩ := submitTrace_split_flag (r.ctxFor cfg) p q hr
  refine ⟨rs1.flatMap (roundTrace cfg) ++ beforeCompletion (r.ctxFor cfg), (r.ctxFor cfg).rows,
    missingJobs (r.ctxFor cfg).jobs (r.ctxFor cfg).rows, (r.ctxFor cfg).rc.teardown, ?_⟩
  rw [hpre, e1]; simp only [List.append_assoc]; rfl

/-- "after every job has an outcome": the summary written before the teardown lists, for every job of the configuration,
    a result or reports it missing (results are duplicate-free and belong to the configuration: C03/C08) -/
theorem C16_summary_accounts_for_every_job (jobs rows : List Nat) (hn : rows.Nodup) (hs : ∀ j ∈ rows, j ∈ jobs) :
    ∀ j ∈ jobs, j ∈ rows ∨ j ∈ missingJobs jobs rows := by
  intro j hj
  unfold missingJobs
  cases hinc : resultsIncomplete rows.length jobs.length
  · left
    have hlen : rows.length = jobs.length := by simpa [resultsIncomplete] using hinc
    exact mem_of_nodup_subset_length_le hn hs (Nat.le_of_eq hlen.symm) j hj
  · by_cases h : j ∈ rows
    · exact Or.inl h
    · right; simp [hj, h]

/-- the summary of a call is the one of its results: rows as listed, missing as computed from them -/
theorem C16_summary_content (cfg : Cfg) (r : Round) (hl : NoLegacy cfg) (rows missing : List Nat)
    (h : Ev.summary rows missing ∈ roundTrace cfg r) :
    rows = r.ctx.rows ∧ missing = missingJobs r.ctx.jobs r.ctx.rows := by
  rw [roundTrace_eq cfg r hl] at h
  exact submitTrace_summary (r.ctxFor cfg) rows missing h

/-! ## E. Per batch: node setup before every job, node teardown after all of them, once each -/

/-- every queue event of the batch (every job start, every recorded result) happens after the node setup command,
    which succeeded, and only queue events lie between -/
theorem C16_node_setup_before_jobs (cfg : Cfg) (c : Ctx) (hl : NoLegacy cfg) (hs : cfg.nodeSetup = true)
    (pre post : List Ev) (b : Nat) (e : QEv) (hsplit : nodeTrace cfg c = pre ++ .job b e :: post) :
    ∃ tl, pre = .hook .nodeSetup [.runtimeOutput, .submissionGroup] c.rc.nodeSetup :: tl ∧
      (∀ x ∈ tl, x.isJob = true) ∧ c.rc.nodeSetup = 0 := by
  rw [nodeTrace_eq cfg c hl] at hsplit
  obtain ⟨tl, h1, h2, h3⟩ := nodeCliTrace_split_job { c with cfg := cfg } hs pre post b e hsplit
  refine ⟨tl, h1, h2, ?_⟩
  have : commandFailed c.rc.nodeSetup = false := by simpa [nodeSetupFails, hs] using h3
  by_cases h0 : c.rc.nodeSetup = 0
  · exact h0
  · rw [(commandFailed_iff _).2 h0] at this; cases this

/-- the node teardown command runs after the WHOLE queue run of the batch (every job started and every result recorded
    before it), nothing of the batch runs after it; with the documented environment -/
theorem C16_node_teardown_after_jobs (cfg : Cfg) (c : Ctx) (hl : NoLegacy cfg) (pre post : List Ev)
    (env : List EnvVar) (rc : Int) (hsplit : nodeTrace cfg c = pre ++ .hook .nodeTeardown env rc :: post) :
    pre = nodeSetupEvs { c with cfg := cfg } ++ c.queue.map (.job c.batch) ∧
      post = (if c.distributed then [.trySubmit] else []) ∧ env = [.runtimeOutput, .submissionGroup] := by
  rw [nodeTrace_eq cfg c hl] at hsplit
  obtain ⟨h1, h2, h3, _, _⟩ := nodeCliTrace_split_nodeTeardown { c with cfg := cfg } pre post env rc hsplit
  exact ⟨h1, h2, h3⟩

/-- once per batch: node setup once iff configured; node teardown once iff configured and the node setup did not fail -/
theorem C16_node_commands_once (cfg : Cfg) (c : Ctx) (hl : NoLegacy cfg) :
    (nodeTrace cfg c).countP (·.isHookOf .nodeSetup) = (if cfg.nodeSetup then 1 else 0) ∧
    (nodeTrace cfg c).countP (·.isHookOf .nodeTeardown) =
      (if cfg.nodeTeardown && !nodeSetupFails { c with cfg := cfg } then 1 else 0) := by
  rw [nodeTrace_eq cfg c hl]
  exact ⟨nodeCliTrace_count_nodeSetup _, nodeCliTrace_count_nodeTeardown _⟩

/-! ## F. Configuring commands never prevents results from being recorded -/

/-- a node whose node setup command does not fail does, apart from the commands themselves, EXACTLY what it does with no
    command configured: the same job starts, the same result rows recorded, the same try-submit, no exception —
    whatever the node teardown command returns -/
theorem C16_commands_transparent_node (cfg : Cfg) (c : Ctx) (hl : NoLegacy cfg)
    (hok : nodeSetupFails { c with cfg := cfg } = false) :
    (nodeTrace cfg c).filter (fun e => !e.isHook) = nodeTrace cfg.noHooks c ∧ nodeErr cfg c = none ∧
      nodeErr cfg.noHooks c = none := by
  rw [nodeTrace_eq cfg c hl, nodeTrace_eq cfg.noHooks c (noLegacy_noHooks cfg hl), nodeErr_eq cfg c hl,
    nodeErr_eq cfg.noHooks c (noLegacy_noHooks cfg hl)]
  exact ⟨nodeCliTrace_filter_hooks _ hok, by simp [nodeCliErr, hok], rfl⟩

/-- every result the queue run produces is recorded, and the node hands over with try-submit, whichever commands are
    configured and whatever the node teardown returns -/
theorem C16_rows_recorded (cfg : Cfg) (c : Ctx) (hl : NoLegacy cfg)
    (hok : nodeSetupFails { c with cfg := cfg } = false) :
    (nodeTrace cfg c).filter (·.isJob) = c.queue.map (.job c.batch) ∧
      (c.distributed = true → Ev.trySubmit ∈ nodeTrace cfg c) := by
  rw [nodeTrace_eq cfg c hl]
  exact ⟨nodeCliTrace_filter_jobs _ hok, trySubmit_mem_nodeCliTrace _ hok⟩

/-- what the code does when the node setup command FAILS: the node raises before the queue runs — no job of the batch
    starts, no result is recorded, no node teardown, no try-submit from this node.  (The batch's jobs are later
    reported missing; this is `check_run_command` in `JobRunner.run_jobs`.) -/
theorem C16_failing_node_setup_aborts (cfg : Cfg) (c : Ctx) (hl : NoLegacy cfg) (hs : cfg.nodeSetup = true)
    (hf : c.rc.nodeSetup ≠ 0) :
    nodeTrace cfg c = [.hook .nodeSetup [.runtimeOutput, .submissionGroup] c.rc.nodeSetup] ∧
      nodeErr cfg c = some .execError := by
  have hfail : nodeSetupFails { c with cfg := cfg } = true := by
    simp [nodeSetupFails, hs, (commandFailed_iff _).2 hf]
  rw [nodeTrace_eq cfg c hl, nodeErr_eq cfg c hl]
  simp [nodeCliTrace, nodeCliErr, hfail, nodeSetupEvs, hs]

/-- the submit side: when neither the setup command nor (local mode) the node setup command fails, a call does, apart
    from the commands themselves, EXACTLY what it does with no command configured — same `sbatch` calls, same summary,
    same flag — whatever the teardown commands return -/
theorem C16_commands_transparent_round (cfg : Cfg) (r : Round) (hl : NoLegacy cfg)
    (h1 : setupFails (r.ctxFor cfg) = false)
    (h2 : r.ctx.isLocal = true → nodeSetupFails (r.ctxFor cfg) = false) :
    (roundTrace cfg r).filter (fun e => !e.isHook) = roundTrace cfg.noHooks r ∧ roundErr cfg r = none ∧
      roundErr cfg.noHooks r = none := by
  rw [roundTrace_eq cfg r hl, roundTrace_eq cfg.noHooks r (noLegacy_noHooks cfg hl), roundErr_eq cfg r hl,
    roundErr_eq cfg.noHooks r (noLegacy_noHooks cfg hl)]
  exact ⟨submitTrace_filter_hooks _ h1 h2, submitErr_eq_none _ h1 h2,
    submitErr_eq_none _ (setupFails_noHooks (r.ctxFor cfg)) fun _ => nodeSetupFails_noHooks (r.ctxFor cfg)⟩

/-! ## G. All interleavings: the setup command precedes everything any node does -/

/-- in every interleaving, whatever a node does (node setup, every job start, …) happens after the setup command ran -/
theorem C16_setup_before_every_node_event (cfg : Cfg) (rs : List Round) (g : List (Proc × Ev)) (hl : NoLegacy cfg)
    (hh : History rs) (hx : Execution cfg rs g) (hs : cfg.setup = true)
    (pre post : List (Proc × Ev)) (b : Nat) (e : Ev) (hsplit : g = pre ++ (Proc.node b, e) :: post) :
    ∃ rc, (Proc.submit, Ev.hook .setup [.runtimeOutput] rc) ∈ pre := by
  obtain ⟨p1, p2, hp⟩ := List.append_of_mem (hx.causal pre post b e hsplit)
  obtain ⟨rc, tl, h1, _⟩ := C16_setup_first cfg rs hl hh hs
  have hproj := hx.submit
  rw [hsplit, hp, h1, List.append_assoc, List.cons_append, proj] at hproj
  obtain ⟨⟨pr, ev⟩, hmem, hf⟩ := mem_of_filterMap_head _ hproj (y := .sbatch b) (by simp) (fun h => nomatch h)
  refine ⟨rc, ?_⟩
  split at hf
  · next hpr =>
    injection hf with hf
    rw [hp, ← hf, ← hpr]
    simp [hmem]
  · cases hf

/-! ## Non-vacuity: concrete histories evaluated by the kernel -/

/-- all four commands set -/
def cfgAll : Cfg := { setup := true, teardown := true, nodeSetup := true, nodeTeardown := true }

/-- a submission of three jobs: submit-jobs hands over batches 1 and 2; a node's try-submit completes it with a failing
    job and a failing teardown; the user resubmits (batch 3); the next try-submit completes it again -/
def demo : List Round := [
  { entry := .submitJobs, ctx := { cfg := cfgAll, batches := [1, 2], jobs := [0, 1, 2] } },
  { entry := .trySubmit, ctx := { cfg := cfgAll, hpcComplete := true, jobs := [0, 1, 2], rows := [0, 1], rc := { teardown := 3 } } },
  { entry := .resubmit, ctx := { cfg := cfgAll, batches := [3], jobs := [0, 1, 2] } },
  { entry := .trySubmit, ctx := { cfg := cfgAll, hpcComplete := true, jobs := [0, 1, 2], rows := [0, 1, 2] } }]

example : NoLegacy cfgAll ∧ History demo := by decide

example : submitSide cfgAll demo =
    [.hook .setup [.runtimeOutput] 0, .sbatch 1, .sbatch 2,
     .summary [0, 1] [2], .hook .teardown [.runtimeOutput] 3, .flag,
     .sbatch 3,
     .summary [0, 1, 2] [], .hook .teardown [.runtimeOutput] 0, .flag] := by decide

example : (submitSide cfgAll demo).countP (·.isHookOf .setup) = 1 ∧
    (submitSide cfgAll demo).countP (·.isHookOf .teardown) = 2 ∧ (submitSide cfgAll demo).countP (·.isFlag) = 2 := by decide

/-- a node: two jobs overlapping, node teardown fails, results are recorded all the same -/
example : nodeTrace cfgAll { cfg := cfgAll, batch := 2, queue := [.start 0, .start 1, .row 1, .row 0], rc := { nodeTeardown := 1 } } =
    [.hook .nodeSetup [.runtimeOutput, .submissionGroup] 0, .job 2 (.start 0), .job 2 (.start 1), .job 2 (.row 1), .job 2 (.row 0),
     .hook .nodeTeardown [.runtimeOutput, .submissionGroup] 1, .trySubmit] := by decide

/-- a failing node setup aborts the batch: nothing else happens on the node -/
example : nodeTrace cfgAll { cfg := cfgAll, batch := 2, queue := [.start 0, .row 0], rc := { nodeSetup := 2 } } =
    [.hook .nodeSetup [.runtimeOutput, .submissionGroup] 2] ∧
    nodeErr cfgAll { cfg := cfgAll, batch := 2, queue := [.start 0, .row 0], rc := { nodeSetup := 2 } } = some .execError := by decide

/-- local mode, one call: everything in order -/
def localCtx : Ctx :=
  { cfg := cfgAll, isLocal := true, localInputs := true, jobs := [0, 1], rows := [0, 1],
    queue := [.start 0, .row 0, .start 1, .row 1] }

example : roundTrace cfgAll { entry := .submitJobs, ctx := localCtx } =
    [.hook .setup [.runtimeOutput] 0, .hook .nodeSetup [.runtimeOutput, .submissionGroup] 0,
     .job 0 (.start 0), .job 0 (.row 0), .job 0 (.start 1), .job 0 (.row 1),
     .hook .nodeTeardown [.runtimeOutput, .submissionGroup] 0, .collect,
     .summary [0, 1] [], .hook .teardown [.runtimeOutput] 0, .flag] := by decide

/-- nothing configured: no command runs -/
example : submitSide cfgAll.noHooks demo =
    [.sbatch 1, .sbatch 2, .summary [0, 1] [2], .flag, .sbatch 3, .summary [0, 1, 2] [], .flag] := by decide

/-- a global schedule exists (the hypotheses of `C16_setup_before_every_node_event` are satisfiable) -/
example : Execution cfgAll [{ entry := .submitJobs, ctx := { cfg := cfgAll, batches := [1] } }]
    [(.submit, .hook .setup [.runtimeOutput] 0), (.submit, .sbatch 1),
     (.node 1, .hook .nodeSetup [.runtimeOutput, .submissionGroup] 0), (.node 1, .job 1 (.start 0))] := by
  constructor
  · decide
  · intro pre post b e h
    rcases pre with _ | ⟨x1, _ | ⟨x2, _ | ⟨x3, _ | ⟨x4, pre⟩⟩⟩⟩ <;> simp at h
    · obtain ⟨h1, h2, ⟨hb, _⟩, _⟩ := h
      subst h1 h2 hb; simp
    · obtain ⟨h1, h2, h3, ⟨hb, _⟩, _⟩ := h
      subst h1 h2 h3 hb; simp

/-- multi-node allocations: the node setup / node teardown statements of `JobRunner.run_jobs` are guarded by the
    configuration only, never by the node's id or the manager flag (generated from the source) — so the per-node
    statements above hold on every node of an allocation, not only on the manager node -/
theorem C16_node_hooks_on_every_node : Jade.Gen.Replica.nodeHooksOnEveryNode = true := by decide

end Jade.C16
