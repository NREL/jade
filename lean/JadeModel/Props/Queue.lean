import JadeModel.Proofs.Queue

/-!
# Node-level queue theorems (C02, C04, C06 — the compute-node parts)

Theorems about `Model/Queue.lean` (`JobQueue.submit / process_queue / _check_completions / wait / run` with
`AsyncCliCommand` jobs, and the worker computation of `JobRunner._run_jobs`), for **all** operation sequences
(`runOps depth ops`: any interleaving of `submit` and `process_queue`, any exit events per poll round — a
process may also exit between two passes of the rerun loop), all job graphs, all depths.  The only hypothesis
on operation sequences is `Distinct ops`: the names handed to one queue are distinct.

Ghost logs: `s.log` (launches and appended rows in the order they happen), `s.starts`, `s.rows`.
-/

namespace Jade.QueueProps
open Jade.Queue Jade.Gen.Queue

/-! ## C02 — the node-level gate -/

/-- A step appends to `starts` only jobs whose *remaining* blocker list is empty at that moment: the job
    being submitted, or jobs of the queue as `_check_completions` left it.  (No hypothesis at all.) -/
theorem started_only_unblocked (s : QState) (op : Op) :
    ∃ P : List Job, (step s op).starts = s.starts ++ P.map (·.id) ∧
      ∀ p ∈ P, p.blockers = [] ∧
        (match op with
         | .submit j => p = j
         | .processQueue evs => p ∈ (checkCompletions evs s).queued) := by
  cases op with
  | submit j =>
    obtain ⟨P, R, heq, -, hP, -⟩ := submit_eq j s
    exact ⟨P, by simp only [step, heq, launch_starts]; rfl, fun p hp => ⟨(hP p hp).2, (hP p hp).1⟩⟩
  | processQueue evs =>
    exact ⟨(picked (checkCompletions evs s)).1,
      by simp only [step, processQueue_eq, launch_starts, checkCompletions_starts],
      fun p hp => ⟨picked_unblocked _ p hp, (picked_perm _).subset (List.mem_append_left _ hp)⟩⟩

/-- the scan for a completed name removes that name and nothing else from the surviving queued jobs -/
theorem reap_removes_only_the_completed_name (failed : List JobId) (s : QState) (name : JobId) :
    ∀ q' ∈ (reap failed s name).queued, ∃ q ∈ s.queued, q'.id = q.id ∧ q'.cancelFlag = q.cancelFlag ∧
      ∀ b, b ∈ q'.blockers ↔ (b ∈ q.blockers ∧ b ≠ name) := by
  intro q' hq'
  obtain ⟨r, hr, -, rfl⟩ := mem_reap_queued.1 hq'
  exact ⟨r, hr, dropBlocker_id _ _, dropBlocker_flag _ _, mem_dropBlocker _ _⟩

/-- …and every name scanned in a pass (`completed_jobs`) already has its row when the scans start:
    `_complete()` / `cancel()` wrote it before -/
theorem completed_name_has_row {s : QState} (h : Good s) (ev : Poll) :
    ∀ n ∈ completedOf (pollAll ev s), ∃ rc st, (n, rc, st) ∈ (pollAll ev s).rows := by
  intro n hn
  obtain ⟨o, ho, hst, rfl⟩ := mem_completedOf.1 hn
  have g := good_pollAll ev h
  cases hs : o.st with
  | running => exact absurd hs hst
  | exited rc => exact ⟨rc, _, mem_rowsOf.2 (g.oExit o ho rc hs)⟩
  | canceled => exact ⟨_, _, mem_rowsOf.2 (g.oCan o ho hs)⟩

/-- At every point of every operation sequence: a blocker handed over with a job is missing from the job's
    remaining list only if its row has been written (remaining ⊆ handed; handed \ remaining ⊆ rows). -/
theorem blocker_removed_only_on_completion (d : Nat) (ops : List Op) (hd : Distinct ops) :
    ∀ q ∈ (runOps d ops).queued, ∃ h ∈ handedOf ops, h.id = q.id ∧ h.cancelFlag = q.cancelFlag ∧
      (∀ b ∈ q.blockers, b ∈ h.blockers) ∧
      ∀ b ∈ h.blockers, b ∉ q.blockers → ∃ rc st, (b, rc, st) ∈ (runOps d ops).rows := by
  intro q hq
  obtain ⟨x, hx, h1, h2, h3, h4⟩ := (settled_runOps d ops hd).good.qHanded q hq
  exact ⟨x, runOps_handed d ops ▸ hx, h1, h2, h3,
    fun b hb hnb => hasRow_iff_mem_rows.1 ((h4 b hb).resolve_left hnb).1⟩

/-- **No job starts before every job blocking it has finished**: when `j` is launched, every ORIGINAL
    blocker of `j` (as handed to the queue) has a row written earlier — any interleaving. -/
theorem start_after_blockers (d : Nat) (ops : List Op) (hd : Distinct ops) :
    ∀ (pre post : List Ev) (j : JobId), (runOps d ops).log = pre ++ Ev.start j :: post →
      ∀ h ∈ handedOf ops, h.id = j → ∀ b ∈ h.blockers, ∃ rc st, Ev.row b rc st ∈ pre := by
  rintro pre post _ heq h hh rfl b hb
  exact ((settled_runOps d ops hd).good.start_split (runOps_handed d ops ▸ hh) heq b hb).1

theorem started_at_most_once (d : Nat) (ops : List Op) (hd : Distinct ops) : (runOps d ops).starts.Nodup :=
  (settled_runOps d ops hd).good.logOk.starts_nodup

theorem row_at_most_once (d : Nat) (ops : List Op) (hd : Distinct ops) :
    ((runOps d ops).rows.map (·.1)).Nodup :=
  (settled_runOps d ops hd).good.logOk.rows_nodup

/-- a finished row belongs to a launched job and carries the code some poll of the sequence delivered -/
theorem exit_row_is_real (d : Nat) (ops : List Op) (hd : Distinct ops) (j : JobId) (rc : Int)
    (h : (j, rc, RowStatus.finished) ∈ (runOps d ops).rows) :
    j ∈ (runOps d ops).starts ∧
      ∃ evs, Op.processQueue evs ∈ ops ∧ ∃ ev ∈ evs, ev.lookup j = some rc := by
  have hm := mem_rowsOf.1 h
  refine ⟨mem_startsOf.2 ((settled_runOps d ops hd).good.logOk.finished_started hm), ?_⟩
  exact rowsFrom_runOps (fun j rc => ∃ evs, Op.processQueue evs ∈ ops ∧ ∃ ev ∈ evs, ev.lookup j = some rc)
    d ops (fun evs hevs ev hev j rc hl => ⟨evs, hevs, ev, hev, hl⟩) j rc hm

/-- a canceled job: its single row has the cancel code (1, non-zero), and its command is never started -/
theorem cancel_never_runs (d : Nat) (ops : List Op) (hd : Distinct ops) (j : JobId) (rc : Int)
    (h : (j, rc, RowStatus.canceled) ∈ (runOps d ops).rows) :
    rc = cancelRc ∧ cancelRc = 1 ∧ failedCode cancelRc = true ∧ j ∉ (runOps d ops).starts := by
  have := (settled_runOps d ops hd).good.logOk.canceled_not_started (mem_rowsOf.1 h)
  exact ⟨this.2, rfl, failedCode_cancelRc, fun hs => this.1 (mem_startsOf.1 hs)⟩

/-- each job has at most one row; so a launched job's only row is its exit row -/
theorem started_row_is_exit_row (d : Nat) (ops : List Op) (hd : Distinct ops) (j : JobId) (rc : Int)
    (st : RowStatus) (h : (j, rc, st) ∈ (runOps d ops).rows) (hs : j ∈ (runOps d ops).starts) :
    st = RowStatus.finished := by
  cases st with
  | finished => rfl
  | canceled => exact absurd hs (cancel_never_runs d ops hd j rc h).2.2.2

/-! ## C04 — the cancel loop of one `_check_completions` call -/

/-- `Doomed Q F` is closed under the cancel rule … -/
theorem doomed_closed (Q : List Job) (F : JobId → Prop) (q : Job) (b : JobId) (hq : q ∈ Q)
    (hf : q.cancelFlag = true) (hb : b ∈ q.blockers) (h : F b ∨ Doomed Q F b) : Doomed Q F q.id := by
  rcases h with h | h
  · exact .base hq hf hb h
  · exact .step hq hf hb h

/-- … and is the least such set -/
theorem doomed_least (Q : List Job) (F : JobId → Prop) (K : JobId → Prop)
    (hK : ∀ q ∈ Q, q.cancelFlag = true → ∀ b ∈ q.blockers, (F b ∨ K b) → K q.id) :
    ∀ j, Doomed Q F j → K j := by
  intro j h
  induction h with
  | base hq hf hb hF => exact hK _ hq hf _ hb (.inl hF)
  | step hq hf hb _ ih => exact hK _ hq hf _ hb (.inr ih)

/-- **One `_check_completions` call cancels exactly the least fixpoint** — chains resolved within the call
    included, for every poll sequence: with `failedNow` = the jobs whose exit row with a non-zero code was
    written in this call, a queued job is canceled (canceled row, code 1) iff it belongs to the least set `K`
    of queued flagged jobs with `blockers ∩ (failedNow ∪ K) ≠ ∅`; exactly the other queued jobs stay queued,
    each with its blocker list minus the names that got a row in this call (exited processes and `K`).
    The code only cancels while scanning for a completed name of the pass in which the blocker became
    failed; this loses nothing for jobs that are queued when the blocker's failure is collected. -/
theorem checkCompletions_spec (d : Nat) (ops : List Op) (hd : Distinct ops) (evs : List Poll) :
    let s0 := runOps d ops
    let s' := checkCompletions evs s0
    ∀ q ∈ s0.queued,
      ((q.id, cancelRc, RowStatus.canceled) ∈ s'.rows ↔ Doomed s0.queued (FailedNow s0 s') q.id) ∧
      (q.id ∈ s'.queuedIds ↔ ¬ Doomed s0.queued (FailedNow s0 s') q.id) ∧
      (∀ q' ∈ s'.queued, q'.id = q.id → q'.cancelFlag = q.cancelFlag ∧
        ∀ b, b ∈ q'.blockers ↔
          (b ∈ q.blockers ∧ ¬ ((∃ rc st, (b, rc, st) ∈ s'.rows) ∧ ¬ ∃ rc st, (b, rc, st) ∈ s0.rows))) ∧
      q.id ∉ s'.starts := by
  intro s0 s' q hq
  have h := settled_runOps d ops hd
  obtain ⟨h1, h2, h3⟩ := checkCompletions_lfp h evs q hq
  refine ⟨mem_rowsOf.trans h1, h2, fun q' hq' hid => ⟨(h3 q' hq' hid).1, fun b => ?_⟩, ?_⟩
  · rw [(h3 q' hq' hid).2 b, hasRow_iff_mem_rows, hasRow_iff_mem_rows]
  · show q.id ∉ (checkCompletions evs (runOps d ops)).starts
    rw [checkCompletions_starts]
    exact fun hs => (h.good.qNoEv q hq).1 (mem_startsOf.1 hs)

/-- What the side condition does lose (outside `JobQueue.run`, where all submits precede the first poll): a
    flagged job handed over AFTER its blocker's failure was collected is neither canceled nor started — it
    waits forever.  Witness: submit 0; poll (0 exits with 1); submit 1 (flagged, blocked by 0); n polls. -/
theorem late_submit_waits_forever (n : Nat) :
    runOps 2 ([.submit ⟨0, [], false⟩, .processQueue [[(0, 1)]], .submit ⟨1, [0], true⟩] ++
        List.replicate n (.processQueue [[]])) =
      runOps 2 [.submit ⟨0, [], false⟩, .processQueue [[(0, 1)]], .submit ⟨1, [0], true⟩] ∧
    (runOps 2 [.submit ⟨0, [], false⟩, .processQueue [[(0, 1)]], .submit ⟨1, [0], true⟩]).queued
      = [⟨1, [0], true⟩] ∧
    (runOps 2 [.submit ⟨0, [], false⟩, .processQueue [[(0, 1)]], .submit ⟨1, [0], true⟩]).outstanding = [] ∧
    (runOps 2 [.submit ⟨0, [], false⟩, .processQueue [[(0, 1)]], .submit ⟨1, [0], true⟩]).rows
      = [(0, 1, .finished)] ∧
    (runOps 2 [.submit ⟨0, [], false⟩, .processQueue [[(0, 1)]], .submit ⟨1, [0], true⟩]).starts = [0] := by
  refine ⟨?_, by decide, by decide, by decide, by decide⟩
  induction n with
  | zero => simp
  | succ n ih =>
    rw [List.replicate_succ', ← List.append_assoc]
    unfold runOps at ih ⊢
    rw [List.foldl_append, ih]
    decide

/-! ## C04 — exactness for runs to completion -/

/-- failed or canceled -/
@[reducible] def BadOutcome (rc : Int) (st : RowStatus) : Prop := rc ≠ 0 ∨ st = RowStatus.canceled

theorem badRow_iff {s : QState} {b : JobId} :
    BadRow s.log b ↔ ∃ rc st, (b, rc, st) ∈ s.rows ∧ BadOutcome rc st := by
  simp [BadRow, Bad, failedCode_iff, QState.rows, mem_rowsOf]

/-- **Node-level exactness** on any drained queue (any interleaving that leaves nothing outstanding or
    queued): job `j` is canceled ⇔ it is flagged and some blocker's outcome is failed or canceled. -/
theorem canceled_iff (d : Nat) (ops : List Op) (hd : Distinct ops) (hdr : Drained (runOps d ops)) :
    ∀ h ∈ handedOf ops,
      ((h.id, cancelRc, RowStatus.canceled) ∈ (runOps d ops).rows ↔
        (h.cancelFlag = true ∧ ∃ b ∈ h.blockers, ∃ rc st, (b, rc, st) ∈ (runOps d ops).rows ∧ BadOutcome rc st)) := by
  have g := (settled_runOps d ops hd).good
  intro h hm
  have hx : h ∈ (runOps d ops).handed := runOps_handed d ops ▸ hm
  refine mem_rowsOf.trans ((g.canceled_iff hx (g.all_rows hdr h hx)).trans ?_)
  simp only [badRow_iff]

/-- every job of a drained queue has exactly one row -/
theorem run_complete (d : Nat) (ops : List Op) (hd : Distinct ops) (hdr : Drained (runOps d ops)) :
    ∀ h ∈ handedOf ops, ∃ rc st, (h.id, rc, st) ∈ (runOps d ops).rows ∧
      ∀ rc' st', (h.id, rc', st') ∈ (runOps d ops).rows → rc' = rc ∧ st' = st := by
  have g := (settled_runOps d ops hd).good
  intro h hm
  obtain ⟨rc, st, hr⟩ := g.all_rows hdr h (runOps_handed d ops ▸ hm)
  exact ⟨rc, st, mem_rowsOf.2 hr, fun rc' st' h' => g.logOk.row_unique (mem_rowsOf.1 h') hr⟩

/-- a job without the flag is started and gets its real exit code, whatever its blockers' outcomes -/
theorem unflagged_runs (d : Nat) (ops : List Op) (hd : Distinct ops) (hdr : Drained (runOps d ops)) :
    ∀ h ∈ handedOf ops, h.cancelFlag = false →
      h.id ∈ (runOps d ops).starts ∧
      ∃ rc, (h.id, rc, RowStatus.finished) ∈ (runOps d ops).rows ∧
        ∃ evs, Op.processQueue evs ∈ ops ∧ ∃ ev ∈ evs, ev.lookup h.id = some rc := by
  have g := (settled_runOps d ops hd).good
  intro h hm hf
  have hx : h ∈ (runOps d ops).handed := runOps_handed d ops ▸ hm
  obtain ⟨rc, st, hr⟩ := g.all_rows hdr h hx
  cases st with
  | canceled =>
    have := (g.canceled_sound hx hr).1
    rw [hf] at this; cases this
  | finished =>
    have := exit_row_is_real d ops hd h.id rc (mem_rowsOf.2 hr)
    exact ⟨this.1, rc, mem_rowsOf.2 hr, this.2⟩

/-- the polls of a schedule deliver the exit codes `rcOf` -/
@[reducible] def SchedOk (rcOf : JobId → Int) (sched : List (List Poll)) : Prop :=
  ∀ evs ∈ sched, ∀ ev ∈ evs, ∀ j rc, ev.lookup j = some rc → rc = rcOf j

/-- `wait`'s assertion `_num_completed == _num_jobs` never fails: `run` cannot raise it -/
theorem wait_assertion_holds (d : Nat) (jobs : List Job) (sched : List (List Poll))
    (hn : (jobs.map (·.id)).Nodup) : ∃ r, runAll d jobs sched = .ok r :=
  ⟨_, runAll_eq d jobs sched hn⟩

/-- …and when the queue drains the two counters agree (the assertion, stated on the state) -/
theorem drained_counts_agree (d : Nat) (ops : List Op) (hd : Distinct ops) (hdr : Drained (runOps d ops)) :
    (runOps d ops).numCompleted = (runOps d ops).numJobs :=
  (settled_runOps d ops hd).counted.drained hdr

/-- **The rows of a completed `JobQueue.run` are the reference evaluation** of the batch (all blockers inside
    the batch, acyclic): exactly one row per job, canceled with code 1 where `ref` says so, else finished
    with the job's exit code. -/
theorem rows_eq_ref (d : Nat) (jobs : List Job) (sched : List (List Poll)) (rcOf : JobId → Int)
    (hn : (jobs.map (·.id)).Nodup) (hca : ClosedAcyclic jobs) (hs : SchedOk rcOf sched)
    (r : RunOut) (hr : runAll d jobs sched = .ok r) (hdr : r.drained = true) :
    ∀ j rc st, (j, rc, st) ∈ r.final.rows ↔ (∃ x ∈ jobs, x.id = j ∧ (rc, st) = ref jobs rcOf j) := by
  obtain ⟨k, hfin, hdrained⟩ := of_runAll_ok hn hr
  have g := (settled_runOps d _ (distinct_runOpsOf sched k hn)).good
  have hh := runOpsOf_handed d jobs sched k
  have hrc : RcOk rcOf (runOps d (runOpsOf jobs sched k)) :=
    rowsFrom_runOps (fun j rc => rc = rcOf j) d _ fun evs hevs => hs evs (mem_runOpsOf_pq hevs)
  intro j rc st
  rw [hfin] at hdrained ⊢
  have := g.rows_eq_ref (hdrained hdr) hrc (hh.symm ▸ hca) j rc st
  rw [hh] at this
  exact mem_rowsOf.trans this

/-- **Independence of schedule and depth**: two completed runs of the same batch, under any two depths and
    any two schedules delivering the same exit codes, record the same rows. -/
theorem run_independent_of_schedule (d1 d2 : Nat) (jobs : List Job) (sched1 sched2 : List (List Poll))
    (rcOf : JobId → Int) (hn : (jobs.map (·.id)).Nodup) (hca : ClosedAcyclic jobs)
    (hs1 : SchedOk rcOf sched1) (hs2 : SchedOk rcOf sched2)
    (r1 r2 : RunOut) (hr1 : runAll d1 jobs sched1 = .ok r1) (hr2 : runAll d2 jobs sched2 = .ok r2)
    (hd1 : r1.drained = true) (hd2 : r2.drained = true) :
    ∀ row, row ∈ r1.final.rows ↔ row ∈ r2.final.rows := by
  rintro ⟨j, rc, st⟩
  rw [rows_eq_ref d1 jobs sched1 rcOf hn hca hs1 r1 hr1 hd1, rows_eq_ref d2 jobs sched2 rcOf hn hca hs2 r2 hr2 hd2]

/-- node-level exactness of a completed `JobQueue.run`, in one statement -/
theorem run_canceled_iff (d : Nat) (jobs : List Job) (sched : List (List Poll))
    (hn : (jobs.map (·.id)).Nodup) (r : RunOut) (hr : runAll d jobs sched = .ok r) (hdr : r.drained = true) :
    ∀ h ∈ jobs,
      ((h.id, cancelRc, RowStatus.canceled) ∈ r.final.rows ↔
        (h.cancelFlag = true ∧ ∃ b ∈ h.blockers, ∃ rc st, (b, rc, st) ∈ r.final.rows ∧ BadOutcome rc st)) ∧
      (h.cancelFlag = false → h.id ∈ r.final.starts ∧ ∃ rc, (h.id, rc, RowStatus.finished) ∈ r.final.rows) ∧
      (∃ rc st, (h.id, rc, st) ∈ r.final.rows) := by
  obtain ⟨k, hfin, hdrained⟩ := of_runAll_ok hn hr
  have hdist := distinct_runOpsOf sched k hn
  have hD := hdrained hdr
  rw [hfin] at hD ⊢
  intro h hm
  have hm' : h ∈ handedOf (runOpsOf jobs sched k) := by rw [handedOf_runOpsOf]; exact hm
  refine ⟨canceled_iff d _ hdist hD h hm', fun hf => ?_, ?_⟩
  · obtain ⟨h1, rc, h2, -⟩ := unflagged_runs d _ hdist hD h hm' hf
    exact ⟨h1, rc, h2⟩
  · obtain ⟨rc, st, h1, -⟩ := run_complete d _ hdist hD h hm'
    exact ⟨rc, st, h1⟩

/-- **`JobQueue.run` never gets stuck** (batch with all blockers inside and acyclic, depth ≥ 1): after every
    `process_queue` call of `wait`'s loop, either some job process is still running or the queue is empty —
    so `wait` keeps looping only while a process has not exited, and every job whose blockers have outcomes
    is started (unflagged) or canceled (flagged, bad blocker) as soon as a worker is free. -/
theorem run_never_stuck (d : Nat) (jobs : List Job) (sched : List (List Poll)) (k : Nat) (evs : List Poll)
    (hn : (jobs.map (·.id)).Nodup) (hca : ClosedAcyclic jobs) (hd : 1 ≤ d) :
    (processQueue evs (runOps d (runOpsOf jobs sched k))).outstanding = [] →
      (processQueue evs (runOps d (runOpsOf jobs sched k))).queued = [] := by
  obtain ⟨rank, h⟩ := runInv_runOpsOf d sched k hn hd hca
  exact (h.step evs).2

/-- **`JobQueue.run` returns once the processes do**: whatever the polls `pre` did, if from then on every poll
    reports every job's process as exited (`ev`), `len(jobs) + 2` more polls drain the queue and `wait`
    returns — so the `drained` hypothesis of the exactness theorems is met by every such schedule. -/
theorem run_drains (d : Nat) (jobs : List Job) (pre : List (List Poll)) (ev : Poll)
    (hn : (jobs.map (·.id)).Nodup) (hca : ClosedAcyclic jobs) (hd : 1 ≤ d)
    (hfull : ∀ x ∈ jobs, ∃ rc, ev.lookup x.id = some rc) :
    ∃ r, runAll d jobs (pre ++ List.replicate (jobs.length + 2) [ev]) = .ok r ∧ r.drained = true :=
  ⟨_, runAll_eq d jobs _ hn, run_drains_aux d jobs ev pre hn hd hca hfull⟩

/-! ## C06 — processes per node -/

/-- **At most `depth` job processes at once**, at every point of every operation sequence: the entries of
    `outstanding` are running processes, at most `depth` of them; and the processes that were launched
    and whose exit has not been recorded (`liveProcs`, read off the logs) number at most `depth`. -/
theorem running_le_depth (d : Nat) (ops : List Op) (hd : Distinct ops) :
    (∀ o ∈ (runOps d ops).outstanding, o.st = St.running) ∧
    (runOps d ops).outstanding.length ≤ d ∧
    (liveProcs (runOps d ops)).length ≤ d := by
  have h := settled_runOps d ops hd
  have h1 := h.live_le
  have h2 := h.good.liveProcs_le
  rw [runOps_depth] at h1 h2
  exact ⟨h.tidy, h1, h2⟩

/-- …also inside a `_check_completions` call, after any number `k` of passes of the rerun loop, where
    canceled placeholders sit in `outstanding`: real (non-placeholder) entries ≤ depth, live processes ≤
    depth, and `len(outstanding)` = real entries + placeholders ≤ depth + placeholders. -/
theorem running_le_depth_during_check (d : Nat) (ops : List Op) (hd : Distinct ops) (evs : List Poll) (k : Nat) :
    let s := checkLoop k evs [] (runOps d ops)
    (s.outstanding.filter (fun o => o.st != St.canceled)).length ≤ d ∧
    (liveProcs s).length ≤ d ∧
    s.outstanding.length =
      (s.outstanding.filter (fun o => o.st != St.canceled)).length +
      (s.outstanding.filter (fun o => o.st == St.canceled)).length := by
  intro s
  obtain ⟨_, c⟩ := checkLoop_induction (fun f => ScanCtx f []) (fun ev _ _ _ => scanCtx_pass ev) k [] _
    (settled_runOps d ops hd).scanCtx
  have g' := c.good
  have hdep' : s.depth = d := (checkLoop_frame k evs [] (runOps d ops)).2.trans (runOps_depth d ops)
  have h1 := g'.live
  have h2 := g'.liveProcs_le
  rw [hdep'] at h1 h2
  refine ⟨h1, h2, ?_⟩
  simpa [List.countP_eq_length_filter, bne, Bool.beq_eq_decide_eq] using
    List.length_eq_countP_add_countP (fun o : Slot => o.st != St.canceled) (l := s.outstanding)

/-- `available_jobs` is never negative where `process_queue` computes it (the equality test `== 0` is
    therefore as good as `<= 0`) -/
theorem available_nonneg (d : Nat) (ops : List Op) (hd : Distinct ops) (evs : List Poll) :
    0 ≤ availableJobs (checkCompletions evs (runOps d ops)).depth (checkCompletions evs (runOps d ops)).outIds := by
  have := (settled_checkCompletions evs (settled_runOps d ops hd)).live_le
  simp only [availableJobs_eq, QState.outIds, List.length_map]
  omega

/-- the depth `JobRunner._run_jobs` passes: min(number of jobs, configured processes per node — or the
    node's CPU count when unset) -/
theorem workers_eq_min (numJobs : Nat) (numProcs : Option Nat) (cpus : Nat) :
    workers numJobs numProcs cpus = min numJobs (numProcs.getD cpus) := by
  simp [workers, numWorkers_eq, maxNumWorkers_eq]

/-- a node run never has more live job processes than configured (or than CPUs when unset) -/
theorem runNode_running_le_configured (numProcs : Option Nat) (cpus : Nat) (jobs : List Job)
    (sched : List (List Poll)) (hn : (jobs.map (·.id)).Nodup) :
    ∃ r, runNode numProcs cpus jobs sched = .ok r ∧ r.final.depth = min jobs.length (numProcs.getD cpus) ∧
      (liveProcs r.final).length ≤ numProcs.getD cpus ∧ r.final.outstanding.length ≤ numProcs.getD cpus := by
  obtain ⟨k, hfin, -⟩ := runAll_final (workers jobs.length numProcs cpus) jobs sched
  have hdist := distinct_runOpsOf sched k hn
  have := running_le_depth (workers jobs.length numProcs cpus) _ hdist
  have hw := workers_eq_min jobs.length numProcs cpus
  have hle : workers jobs.length numProcs cpus ≤ numProcs.getD cpus := hw ▸ Nat.min_le_right _ _
  refine ⟨_, runAll_eq _ jobs sched hn, ?_, ?_, ?_⟩ <;> simp only [hfin]
  · rw [runOps_depth, hw]
  · exact Nat.le_trans this.2.2 hle
  · exact Nat.le_trans this.2.1 hle

/-! ## Non-vacuity -/

/-- a cancel chain of length 3, listed against the dependency order, resolved inside ONE call;
    the unflagged dependent of the failed job runs -/
example : (runOps 2 [.submit ⟨0, [], false⟩, .submit ⟨3, [2], true⟩, .submit ⟨2, [1], true⟩,
      .submit ⟨1, [0], true⟩, .submit ⟨4, [0], false⟩, .processQueue [[(0, 2)]]]).rows =
    [(0, 2, .finished), (1, 1, .canceled), (2, 1, .canceled), (3, 1, .canceled)] := by decide

example : (runOps 2 [.submit ⟨0, [], false⟩, .submit ⟨3, [2], true⟩, .submit ⟨2, [1], true⟩,
      .submit ⟨1, [0], true⟩, .submit ⟨4, [0], false⟩, .processQueue [[(0, 2)]]]).starts = [0, 4] := by decide

/-- a diamond: 3 is blocked by 1 (fails) and 2 (succeeds) -/
def diamond : List Job := [⟨0, [], false⟩, ⟨1, [0], true⟩, ⟨2, [0], true⟩, ⟨3, [1, 2], true⟩, ⟨4, [3], false⟩]
def diamondRc : JobId → Int := fun j => if j = 1 then 1 else 0
def diamondSched : List (List Poll) := List.replicate 6 [[(0, 0), (1, 1), (2, 0), (3, 0), (4, 0)]]

example : (runAll 1 diamond diamondSched).toOption.map (fun r => (r.drained, r.final.rows, r.final.starts)) =
    some (true, [(0, 0, .finished), (1, 1, .finished), (3, 1, .canceled), (2, 0, .finished), (4, 0, .finished)],
      [0, 1, 2, 4]) := by
  decide

/-- depth 1 and depth 3 write the rows in different orders, but the same rows — those of `ref` -/
example : (runAll 3 diamond diamondSched).toOption.map (fun r => (r.drained, r.final.rows, r.final.starts)) =
    some (true, [(0, 0, .finished), (1, 1, .finished), (2, 0, .finished), (3, 1, .canceled), (4, 0, .finished)],
      [0, 1, 2, 4]) := by
  decide

example : diamond.map (fun x => (x.id, ref diamond diamondRc x.id)) =
    [(0, 0, .finished), (1, 1, .finished), (2, 0, .finished), (3, 1, .canceled), (4, 0, .finished)] := by decide

example : ClosedAcyclic diamond :=
  ⟨by decide, ⟨id, by decide⟩⟩

/-- a process that exits between two passes of one call is seen by the second pass -/
example : (runOps 3 [.submit ⟨0, [], false⟩, .submit ⟨1, [], false⟩, .submit ⟨2, [0], true⟩,
      .processQueue [[(0, 1)], [(1, 0)]]]).rows = [(0, 1, .finished), (2, 1, .canceled), (1, 0, .finished)] := by
  decide

/-- the queue is full at depth 1: the second job waits although nothing blocks it -/
example : (runOps 1 [.submit ⟨0, [], false⟩, .submit ⟨1, [], false⟩]).starts = [0] := by decide

/-- Not reachable on a compute node (see `available_nonneg`), but what the equality test `available_jobs == 0`
    would do if `outstanding` ever exceeded the depth (e.g. `existing_jobs` longer than the depth): the test is
    false for a negative value, the first unblocked queued job is started, and the break test stops the loop
    only afterwards — one more process on an over-full queue. -/
def overfull : QState :=
  { depth := 1, outstanding := [⟨7, St.running⟩, ⟨8, St.running⟩],
    queued := [⟨0, [], false⟩, ⟨1, [], false⟩], numJobs := 2, numCompleted := 0,
    handed := [⟨7, [], false⟩, ⟨8, [], false⟩, ⟨0, [], false⟩, ⟨1, [], false⟩],
    log := [Ev.start 7, Ev.start 8] }

example : (processQueue [] overfull).outIds = [7, 8, 0] := by decide

example : workers 5 none 36 = 5 ∧ workers 50 none 36 = 36 ∧ workers 50 (some 4) 36 = 4 := by decide

end Jade.QueueProps
