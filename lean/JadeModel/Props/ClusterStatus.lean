import JadeModel.Proofs.ClusterStatus

/-!
# Cluster-API part of C09 — persisted status consistent and only moving forward

Facts about `Model/Cluster.lean` (`jade/jobs/cluster.py`) that the system-level C09 file builds on.  (The clause "every done
job has a recorded result" and the reachability of `update_job_status` arguments through real submitter rounds are
system-level facts and are not stated here.)

* `StatusInv d`   — the C09 relations on the four files: `num_jobs` = number of jobs, `completed_jobs` = #DONE,
  `submitted_jobs` = #(SUBMITTED ∨ DONE), no blockers left on SUBMITTED/DONE jobs, version inside each file = version file
  (`completed ≤ submitted ≤ total` follows: `StatusInv.order`).
* `Mono d d'`     — the two-state relation: counters, per-job state order n < s < d, blocker sets ⊆, `is_complete` sticky,
  versions non-decreasing and increasing when a file changed.
* `UpdateArgsOK d mj a` — the exact well-formedness of `update_job_status` arguments under which no assertion fires and the
  invariant is preserved.  A job the round canceled is NOT_SUBMITTED on disk, listed in `canceled_jobs` (→ `submitted += 1`)
  AND in `completed_job_names` (→ DONE, `completed += 1`): it is counted once in each counter.
* "current handle": the acting handle's config copy equals the config on disk and its job-status copy has the disk's
  version (`C10_protocol_never_stale`: true of every role holder under the protocol); `Coherent s` holds after EVERY
  tamper-free history (`Coherent.exec`).
-/

namespace Jade.ClusterStatus
open Jade.Cluster Jade.Gen.Cluster

export Jade.Cluster (StatusInv Mono UpdateArgsOK JobsAhead stateRank isDone isSubm Coherent)

/-- completed ≤ submitted ≤ total -/
theorem StatusInv.order {d : Disk} (h : StatusInv d) :
    d.cfg.completed ≤ d.cfg.submitted ∧ d.cfg.submitted ≤ d.cfg.numJobs := by
  rw [h.completed, h.submitted, h.total]
  refine ⟨List.countP_mono_left ?_, List.countP_le_length⟩
  intro v _ hv
  simp only [isDone, beq_iff_eq] at hv
  simp [isSubm, hv]

/-- `Cluster.create` establishes the invariant -/
theorem create_statusInv (host : Host) (spec : List (List JobId × Bool)) (brk : Bool) :
    StatusInv (create host spec brk).disk ∧ (create host spec brk).disk.marker = false := by
  rw [create_eq]
  have hst : ∀ v ∈ createJobs spec, v.state = .notSubmitted := by
    intro v hv
    simp only [createJobs, List.mem_map] at hv
    obtain ⟨_, _, rfl⟩ := hv
    rfl
  refine ⟨⟨?_, ?_, ?_, fun v hv hs => absurd (hst v hv) hs, rfl, rfl⟩, rfl⟩
  · simp [createCfg, createJs, createJobs]
  · exact (List.countP_eq_zero.2 fun v hv => by simp [isDone, hst v hv]).symm
  · exact (List.countP_eq_zero.2 fun v hv => by simp [isSubm, hst v hv]).symm

/-- `update_job_status` with well-formed arguments by a current handle on consistent files: no exception, no marker,
    the files are consistent afterwards, they only moved forward, and the job-status version strictly increased. -/
theorem update_preserves (s : Sys) (h : Hid) (x : Handle) (mj : JsView) (a : UpdateArgs) (hC : Coherent s)
    (hx : s.handles h = some x) (hfree : s.disk.marker = false) (hI : StatusInv s.disk)
    (hcfg : x.cfg = s.disk.cfg) (hjs : x.js = some mj) (hver : mj.version = s.disk.jsVer)
    (hok : UpdateArgsOK s.disk mj a) :
    (step s (.update h a)).2 = .ok ∧ (step s (.update h a)).1.disk.marker = false ∧
    StatusInv (step s (.update h a)).1.disk ∧ Mono s.disk (step s (.update h a)).1.disk ∧
    s.disk.jsVer < (step s (.update h a)).1.disk.jsVer ∧
    (step s (.update h a)).1.disk.js.hpcIds = a.hpcIds ∧ (step s (.update h a)).1.disk.js.batchIdx = a.batchIdx := by
  have hxv : x.cfg.version = s.disk.cfgVer := by rw [hcfg]; exact hI.verCfg
  have hu := applyUpdate_closed a { cfg := x.cfg, js := mj } hok.pre
  simp only [step]
  rw [locked_run s h _ x hx hfree, (doUpdate_current a s.disk x mj hxv hjs hver).2 (by rw [hu]), hu]
  obtain ⟨r1, r3, r4, r5, r6, r7⟩ := serializeBoth_result s.disk
    { x with cfg := (updMem a { cfg := x.cfg, js := mj }).cfg, js := some (updMem a { cfg := x.cfg, js := mj }).js }
    (updMem a { cfg := x.cfg, js := mj }).js hxv hver (fun c hc => hC.hash h x c hx hc hxv) (fun j => hC.hashWf h x j hx)
  generalize serializeBoth s.disk _ _ = o at r1 r3 r4 r5 r6 r7 ⊢
  obtain ⟨hD, hS, hjobs, hblock⟩ := hok.jobs
  simp only [updMem, hcfg] at r3 r5
  have hSt : StatusInv o.1 := by
    refine ⟨?_, ?_, ?_, by rw [r3]; exact hblock, by rw [r5], by rw [r3, r4]⟩
    · rw [r5, r3]; simp only [List.length_mapIdx]; rw [hok.len]; exact hI.total
    · rw [r5, r3]; simp only; rw [hD, hI.completed]
    · rw [r5, r3]; simp only; rw [hS, hI.submitted, List.length_append]; omega
  have hMo : Mono s.disk o.1 :=
    ⟨by rw [r5]; simp only; omega, by rw [r5]; simp only; omega, by rw [r5], by rw [r3]; exact hjobs, by rw [r5]; exact id,
      r6, by rw [r4]; omega, r7, fun _ => by rw [r4]; omega⟩
  exact ⟨r1, by rw [r1]; rfl, hSt.marker _, hMo.marker _, by show _ < o.1.jsVer; rw [r4]; omega,
    by show o.1.js.hpcIds = _; rw [r3], by show o.1.js.batchIdx = _; rw [r3]⟩

/-- Which violation makes the code raise: a job listed as submitted twice, or listed as submitted while the handle's
    copy already says SUBMITTED, is an AssertionError under the lock — never a silent overwrite: the four files are
    unchanged and the deadlock marker is left.  (The guard is `state != SUBMITTED`: a DONE job listed as submitted passes
    it, see `update_resubmits_done_silently`.) -/
theorem update_assertion_double_submit (s : Sys) (h : Hid) (x : Handle) (mj : JsView) (a : UpdateArgs)
    (hx : s.handles h = some x) (hfree : s.disk.marker = false) (hv : x.cfg.version = s.disk.cfgVer)
    (hjs : x.js = some mj) (hver : mj.version = s.disk.jsVer) (hvalid : ∀ i ∈ a.submitted, i < mj.jobs.length)
    (hbad : ¬ a.submitted.Nodup ∨ ∃ i ∈ a.submitted, ∃ v : JobView, mj.jobs[i]? = some v ∧ v.state = .submitted) :
    (step s (.update h a)).2 = .err .assertion ∧ (step s (.update h a)).1.disk = { s.disk with marker := true } := by
  obtain ⟨y, e⟩ := doUpdate_double_submit a s.disk x mj hv hjs hver hbad hvalid
  exact locked_unwritten s h _ x y _ hx hfree e

/-- … and conversely well-formed arguments never raise (part of `update_preserves`); together:
    for a current handle and a submitted list of valid indices whose jobs are NOT_SUBMITTED or SUBMITTED in the handle's
    copy, the submitted loop raises AssertionError IFF some job is listed twice or is already SUBMITTED. -/
theorem update_assertion_iff (subs : List JobId) (m : Mem) (hvalid : ∀ i ∈ subs, i < m.js.jobs.length)
    (hnd : ∀ i ∈ subs, ∀ v : JobView, m.js.jobs[i]? = some v → v.state ≠ .done) :
    (forEach submitOne subs m).2 = some .assertion ↔
      (¬ subs.Nodup ∨ ∃ i ∈ subs, ∃ v : JobView, m.js.jobs[i]? = some v ∧ v.state = .submitted) := by
  obtain ⟨h1, h2⟩ := submitLoop_ok_iff subs m hvalid
  have h3 : (forEach submitOne subs m).2 = some .assertion ↔ ¬ (forEach submitOne subs m).2 = none :=
    ⟨fun h e => (nomatch e ▸ h), h1.resolve_left⟩
  rw [h3, h2]
  simp only [Classical.not_and_iff_not_or_not, Classical.not_forall, Classical.not_not, exists_prop]

/-- promote / demote / mark_complete / mark_canceled / complete_hpc_job_id by a handle whose copy of the file it writes
    is the disk's: the invariant is preserved and the files only move forward; `mark_complete` makes the submission
    complete, and a complete submission stays complete under all of these (and under `update`, see `update_preserves`). -/
theorem promote_demote_preserve (s : Sys) (h : Hid) (x : Handle) (hC : Coherent s) (hx : s.handles h = some x)
    (hfree : s.disk.marker = false) (hI : StatusInv s.disk) (hcfg : x.cfg = s.disk.cfg) :
    (StatusInv (step s (.promote h)).1.disk ∧ Mono s.disk (step s (.promote h)).1.disk) ∧
    (StatusInv (step s (.demote h)).1.disk ∧ Mono s.disk (step s (.demote h)).1.disk) ∧
    (StatusInv (step s (.markCanceled h)).1.disk ∧ Mono s.disk (step s (.markCanceled h)).1.disk ∧
      (step s (.markCanceled h)).2 = .ok) := by
  have hxv : x.cfg.version = s.disk.cfgVer := by rw [hcfg]; exact hI.verCfg
  -- each method serializes the handle after an assignment that leaves counters, version and remembered hash alone
  have key := fun x1 => cfgOnly_status s.disk x x1 hI hcfg
  have hhash := fun c hc => hC.hash h x c hx hc hxv
  simp only [step, locked_run s h _ x hx hfree]
  refine ⟨?_, ?_, ?_⟩
  · unfold doPromote
    split
    · exact ⟨hI.marker _, (Mono.refl _).marker _⟩
    · obtain ⟨a1, a2, _⟩ := key { x with cfg := { x.cfg with submitter := some x.host } } hhash rfl rfl rfl rfl id
      exact ⟨a1.marker _, a2.marker _⟩
  · unfold doDemote
    split
    · obtain ⟨a1, a2, _⟩ := key { x with cfg := { x.cfg with submitter := none } } hhash rfl rfl rfl rfl id
      exact ⟨a1.marker _, a2.marker _⟩
    · exact ⟨hI.marker _, (Mono.refl _).marker _⟩
  · obtain ⟨a1, a2, a4, _⟩ := key { x with cfg := { x.cfg with isCanceled := true } } hhash rfl rfl rfl rfl id
    exact ⟨a1.marker _, a2.marker _, congrArg resOf a4⟩

theorem markComplete_preserves (s : Sys) (h : Hid) (x : Handle) (hC : Coherent s) (hx : s.handles h = some x)
    (hfree : s.disk.marker = false) (hI : StatusInv s.disk) (hcfg : x.cfg = s.disk.cfg) :
    StatusInv (step s (.markComplete h)).1.disk ∧ Mono s.disk (step s (.markComplete h)).1.disk ∧
    (s.disk.cfg.isComplete = false →
      (step s (.markComplete h)).2 = .ok ∧ (step s (.markComplete h)).1.disk.cfg.isComplete = true) ∧
    (s.disk.cfg.isComplete = true →
      (step s (.markComplete h)).2 = .err .assertion ∧ (step s (.markComplete h)).1.disk.files = s.disk.files) := by
  have hxv : x.cfg.version = s.disk.cfgVer := by rw [hcfg]; exact hI.verCfg
  simp only [step]
  rw [locked_run s h _ x hx hfree]
  unfold doMarkComplete
  split
  · next has =>
    obtain ⟨a1, a2, a4, a5⟩ := cfgOnly_status s.disk x { x with cfg := { x.cfg with isComplete := true } } hI hcfg
      (fun c hc => hC.hash h x c hx hc hxv) rfl rfl rfl rfl fun _ => rfl
    refine ⟨a1.marker _, a2.marker _, fun _ => ⟨congrArg resOf a4, congrArg CfgView.isComplete a5⟩, fun hic => ?_⟩
    rw [markCompleteAssert_iff, hcfg, hic] at has
    cases has
  · next has =>
    refine ⟨hI.marker _, (Mono.refl _).marker _, fun hic => absurd ?_ has, fun _ => ⟨rfl, rfl⟩⟩
    rw [markCompleteAssert_iff, hcfg]; exact hic

theorem completeHpcId_preserves (s : Sys) (h : Hid) (x : Handle) (id : Nat) (hx : s.handles h = some x)
    (hfree : s.disk.marker = false) (hI : StatusInv s.disk) (hjs : x.js = some s.disk.js) :
    StatusInv (step s (.completeHpcId h id)).1.disk ∧ Mono s.disk (step s (.completeHpcId h id)).1.disk := by
  simp only [step]
  rw [locked_run s h _ x hx hfree]
  unfold doCompleteHpcId
  rw [hjs]
  simp only
  split
  · rcases serializeJs_cases s.disk { x with js := some { s.disk.js with hpcIds := s.disk.js.hpcIds.erase id } }
        { s.disk.js with hpcIds := s.disk.js.hpcIds.erase id } with ⟨g1, _⟩ | ⟨_, _, g3⟩ | ⟨_, _, g3⟩
    · exact absurd hI.verJs g1
    · rw [g3]; exact ⟨hI.marker _, (Mono.refl _).marker _⟩
    · rw [g3]
      have hv : s.disk.js.version = s.disk.jsVer := hI.verJs
      exact ⟨⟨hI.total, hI.completed, hI.submitted, hI.blockers, hI.verCfg, rfl⟩,
        ⟨Nat.le_refl _, Nat.le_refl _, rfl, .refl _, fun h => h, Nat.le_refl _, Nat.le_succ_of_le (Nat.le_of_eq hv.symm),
          fun h => absurd rfl h, fun _ => Nat.lt_succ_of_le (Nat.le_of_eq hv.symm)⟩⟩
  · exact ⟨hI.marker _, (Mono.refl _).marker _⟩

/-- monotonicity of every non-resubmit operation, collected: a well-formed `update`, promote, demote, mark_complete,
    mark_canceled and complete_hpc_job_id by a current handle move the files only forward -/
theorem update_monotone (s : Sys) (h : Hid) (x : Handle) (mj : JsView) (hC : Coherent s) (hx : s.handles h = some x)
    (hfree : s.disk.marker = false) (hI : StatusInv s.disk) (hcfg : x.cfg = s.disk.cfg) (hjs : x.js = some mj)
    (hver : mj.version = s.disk.jsVer) :
    (∀ a : UpdateArgs, UpdateArgsOK s.disk mj a → Mono s.disk (step s (.update h a)).1.disk) ∧
    Mono s.disk (step s (.promote h)).1.disk ∧ Mono s.disk (step s (.demote h)).1.disk ∧
    Mono s.disk (step s (.markComplete h)).1.disk ∧ Mono s.disk (step s (.markCanceled h)).1.disk ∧
    (mj = s.disk.js → ∀ id : Nat, Mono s.disk (step s (.completeHpcId h id)).1.disk) := by
  obtain ⟨p, d, k⟩ := promote_demote_preserve s h x hC hx hfree hI hcfg
  refine ⟨fun a hok => (update_preserves s h x mj a hC hx hfree hI hcfg hjs hver hok).2.2.2.1, p.2, d.2,
    (markComplete_preserves s h x hC hx hfree hI hcfg).2.1, k.2.1, ?_⟩
  intro e id
  exact (completeHpcId_preserves s h x id hx hfree hI (by rw [hjs, e])).2

/-! ## `prepare_for_resubmission` -/

/-- the full-strength claim: on a complete, consistent submission, `prepare_for_resubmission` with ANY set of existing
    jobs re-establishes the invariant -/
def PrepareResubmitReestablishes : Prop :=
  ∀ (s : Sys) (h : Hid) (x : Handle) (sel : List JobId) (bl : List (JobId × List JobId)),
    Coherent s → s.handles h = some x → StatusInv s.disk → x.cfg = s.disk.cfg → x.js = some s.disk.js →
    s.disk.cfg.isComplete = true → sel.Nodup → (∀ k ∈ sel, k < s.disk.js.jobs.length) →
    StatusInv (step s (.prepareResubmit h sel bl)).1.disk

/-- What IS proved: it does when `jobs_to_resubmit` contains every job that was never submitted (what `resubmit-jobs`
    passes with `--missing`, the default). -/
theorem prepareResubmit_statusInv (s : Sys) (h : Hid) (x : Handle) (sel : List JobId) (bl : List (JobId × List JobId))
    (hC : Coherent s) (hx : s.handles h = some x) (hI : StatusInv s.disk) (hcfg : x.cfg = s.disk.cfg)
    (hjs : x.js = some s.disk.js) (hcomplete : s.disk.cfg.isComplete = true) (hnd : sel.Nodup)
    (hval : ∀ k ∈ sel, k < s.disk.js.jobs.length)
    (hall : ∀ (k : Nat) (v : JobView), s.disk.js.jobs[k]? = some v → v.state = .notSubmitted → k ∈ sel) :
    (step s (.prepareResubmit h sel bl)).2 = .ok ∧ StatusInv (step s (.prepareResubmit h sel bl)).1.disk ∧
    (step s (.prepareResubmit h sel bl)).1.disk.cfg.isComplete = false := by
  simp only [step, resubmitLocked_eq, Bool.false_eq_true, if_false]
  rw [unlocked_run s h _ x hx]
  unfold doPrepareResubmit
  simp only [(resubmitAssert_iff _).2 (hcfg ▸ hcomplete), if_true, hjs]
  obtain ⟨r1, r3, r4, r5, _⟩ := serializeBoth_result s.disk
    { x with cfg := resubmitCfg x.cfg sel (resubmitLoop sel bl 0 s.disk.js.jobs resubmitCompletedInit).2,
             js := some { s.disk.js with jobs := (resubmitLoop sel bl 0 s.disk.js.jobs resubmitCompletedInit).1 } }
    { s.disk.js with jobs := (resubmitLoop sel bl 0 s.disk.js.jobs resubmitCompletedInit).1 }
    (by show x.cfg.version = s.disk.cfgVer; rw [hcfg]; exact hI.verCfg) hI.verJs
    (fun c hc => hC.hash h x c hx hc (by rw [hcfg]; exact hI.verCfg)) (fun j => hC.hashWf h x j hx)
  generalize serializeBoth s.disk _ _ = o at r1 r3 r4 r5 ⊢
  have hsub := resubmitLoop_subm sel bl s.disk.js.jobs 0 resubmitCompletedInit
    (by intro k v hk hs; rw [Nat.zero_add]; exact hall k v hk hs)
  rw [range_count_mem sel _ hnd hval] at hsub
  refine ⟨r1, (?_ : StatusInv o.1), by show o.1.cfg.isComplete = false; rw [r5]; rfl⟩
  refine ⟨?_, ?_, ?_, ?_, by rw [r5], by rw [r3, r4]⟩
  · rw [r5, r3]
    exact (hcfg ▸ hI.total).trans (resubmitLoop_length sel bl s.disk.js.jobs 0 resubmitCompletedInit).symm
  · rw [r5, r3]
    exact (resubmitLoop_done sel bl s.disk.js.jobs 0 resubmitCompletedInit).trans (Nat.zero_add _)
  · rw [r5, r3]
    show (resubmitSubmitted x.cfg.numJobs sel).toNat =
      (resubmitLoop sel bl 0 s.disk.js.jobs resubmitCompletedInit).1.countP isSubm
    rw [resubmitSubmitted, hcfg, hI.total]
    omega
  · rw [r3]
    exact resubmitLoop_blockers sel bl s.disk.js.jobs 0 resubmitCompletedInit hI.blockers

/-- WITNESS (DESIGN 9.7): with an unselected never-submitted job it does NOT.  Two jobs; job 0 runs, the submission is
    canceled, job 0 finishes, the submission completes with job 1 never submitted; `resubmit-jobs --no-missing` selects
    only job 0.  Afterwards job 1 is still NOT_SUBMITTED but `submitted_jobs = num_jobs - 1 = 1` counts it as submitted
    (no job is submitted or done), and the next round, which submits both NOT_SUBMITTED jobs, drives `submitted_jobs` to 3 of
    2 (`show-status` prints `not_submitted_jobs = -1`). -/
theorem prepareResubmit_unselected_breaks_statusInv : ¬ PrepareResubmitReestablishes := by
  intro hall
  let u (sub comp : List JobId) (ids : List Nat) : UpdateArgs :=
    { submitted := sub, blocked := [], canceled := [], completed := comp, hpcIds := ids, batchIdx := 2 }
  let ops : List Op := [.update 0 (u [0] [] [1]), .markCanceled 0, .update 0 (u [] [0] []), .markComplete 0, .demote 0,
    .load 1 1 true true]
  have hnt : ∀ op ∈ ops, op.isTamper = false := by decide
  have hC := Coherent.exec ops _ (Coherent.create 0 [([], false), ([], false)] true) hnt
  generalize hs : exec (create 0 [([], false), ([], false)] true) ops = s at hC
  have hd : s.disk = { cfg := { submitter := some 1, submitted := 1, completed := 1, numJobs := 2, isComplete := true,
                                 isCanceled := true, version := 7 },
                       cfgMissing := false, cfgVer := 7,
                       js := { jobs := [⟨.done, [], false⟩, ⟨.notSubmitted, [], false⟩], hpcIds := [], batchIdx := 2,
                               version := 3 },
                       jsVer := 3, marker := false } := by rw [← hs]; decide
  have hx : s.handles 1 =
      some { host := 1, cfg := s.disk.cfg, js := some s.disk.js, cfgHash := some (Snap.cfg s.disk.cfg),
             jsHash := none } := by rw [← hs]; decide
  have hI : StatusInv s.disk := by
    rw [hd]
    exact ⟨rfl, rfl, rfl, by decide, rfl, rfl⟩
  have := hall s 1 _ [0] [] hC hx hI rfl rfl (by rw [hd]) (by decide) (by rw [hd]; decide)
  have hsub := this.submitted
  have : (step s (.prepareResubmit 1 [0] [])).1.disk.cfg.submitted = 1 ∧
      (step s (.prepareResubmit 1 [0] [])).1.disk.js.jobs.countP isSubm = 0 := by rw [← hs]; decide
  rw [this.1, this.2] at hsub
  cases hsub

/-- the consequence, on the same history: the next (well-formed: both jobs are NOT_SUBMITTED) update drives
    `submitted_jobs` beyond `num_jobs` -/
theorem prepareResubmit_then_submitted_exceeds_total :
    let u (sub comp : List JobId) (ids : List Nat) : UpdateArgs :=
      { submitted := sub, blocked := [], canceled := [], completed := comp, hpcIds := ids, batchIdx := 2 }
    let s := exec (create 0 [([], false), ([], false)] true)
      [.update 0 (u [0] [] [1]), .markCanceled 0, .update 0 (u [] [0] []), .markComplete 0, .demote 0,
       .load 1 1 true true, .prepareResubmit 1 [0] [], .update 1 (u [0, 1] [] [2])]
    s.disk.cfg.submitted = 3 ∧ s.disk.cfg.numJobs = 2 ∧ readStatus s.disk =
      .ok { isComplete := false, isCanceled := false, numJobs := 2, completed := 0, notSubmitted := -1,
            jobs := [⟨.submitted, [], false⟩, ⟨.submitted, [], false⟩] } := by
  decide

/-! ## behaviours of the code worth knowing -/

/-- `_serialize_jobs` compares the job-status hash with `_config_hash` (sic), so the test "changed?" is always true:
    an `update_job_status` that changes nothing (here: right after `create`, empty arguments, same ids and batch index)
    leaves `cluster_config.json` alone but rewrites `job_status.json` with a higher version. -/
theorem serializeJobs_bumps_without_change :
    let s := create 0 [([], false)] true
    let s' := (step s (.update 0 { submitted := [], blocked := [], canceled := [], completed := [], hpcIds := [],
                                   batchIdx := 1 })).1
    s'.disk.cfgVer = s.disk.cfgVer ∧ s'.disk.cfg = s.disk.cfg ∧
    s'.disk.jsVer = s.disk.jsVer + 1 ∧ s'.disk.js = { s.disk.js with version := s.disk.js.version + 1 } := by
  decide

/-- The guard of the submitted loop is `state != SUBMITTED`, not `state == NOT_SUBMITTED`: listing a DONE job as submitted
    is NOT an assertion error — the job silently goes back DONE → SUBMITTED, `submitted_jobs` counts it a second time
    (`submitted_jobs = 2` for a single job).  `UpdateArgsOK` (what a round guarantees: candidates are NOT_SUBMITTED) excludes it. -/
theorem update_resubmits_done_silently :
    let u (sub comp : List JobId) : UpdateArgs :=
      { submitted := sub, blocked := [], canceled := [], completed := comp, hpcIds := [], batchIdx := 2 }
    let r := run (create 0 [([], false)] true) [.update 0 (u [0] []), .update 0 (u [] [0]), .update 0 (u [0] [])]
    r.2 = [.ok, .ok, .ok] ∧ r.1.disk.js.jobs.map (·.state) = [JState.submitted] ∧ r.1.disk.cfg.submitted = 2 ∧
    r.1.disk.cfg.completed = 1 ∧ r.1.disk.cfg.numJobs = 1 := by
  decide

/-! ## non-vacuity -/

/-- a round with a failed job and a canceled dependent, reported the way `HpcSubmitter.run` does, satisfies
    `UpdateArgsOK`: the canceled job (1) is NOT_SUBMITTED on disk, DONE in memory, in `canceled` and in `completed` -/
example :
    let d : Disk := { cfg := { submitter := some 0, submitted := 1, completed := 0, numJobs := 2, isComplete := false,
                               isCanceled := false, version := 2 }, cfgMissing := false, cfgVer := 2,
                      js := { jobs := [⟨.submitted, [], false⟩, ⟨.notSubmitted, [0], true⟩], hpcIds := [5], batchIdx := 2,
                              version := 2 }, jsVer := 2, marker := false }
    let mj : JsView := { d.js with jobs := [⟨.submitted, [], false⟩, ⟨.done, [], true⟩] }
    let a : UpdateArgs := { submitted := [], blocked := [], canceled := [1], completed := [0, 1], hpcIds := [], batchIdx := 2 }
    StatusInv d ∧ UpdateArgsOK d mj a := by
  refine ⟨⟨rfl, rfl, rfl, by decide, rfl, rfl⟩, ⟨rfl, ?_, by decide, by decide, by decide, by decide, ?_, by decide, ?_⟩⟩
  · intro i dv mv hd hm
    match i with
    | 0 => simp at hd hm; subst hd hm; exact ⟨rfl, fun _ h => h, Or.inl rfl⟩
    | 1 => simp at hd hm; subst hd hm; exact ⟨rfl, (fun _ h => by cases h), Or.inr ⟨rfl, rfl, by decide⟩⟩
    | (k + 2) => simp at hd
  · intro i hi
    simp at hi; subst hi
    exact ⟨by decide, ⟨_, rfl, rfl⟩⟩
  · intro i hi
    simp at hi
    rcases hi with rfl | rfl
    · exact ⟨by decide, by decide, Or.inr ⟨_, rfl, rfl⟩⟩
    · exact ⟨by decide, by decide, Or.inl (by decide)⟩

example : (run (create 0 [([], false), ([0], true)] true)
    [.update 0 { submitted := [0], blocked := [(1, [0])], canceled := [], completed := [], hpcIds := [5], batchIdx := 2 },
     .memCancel 0 1,
     .update 0 { submitted := [], blocked := [], canceled := [1], completed := [0, 1], hpcIds := [], batchIdx := 2 },
     .allComplete 0, .markComplete 0]).2 = [.ok, .ok, .ok, .bool true, .ok] := by decide

end Jade.ClusterStatus
