import JadeModel.Props.C10Crash
import JadeModel.Proofs.ClusterLive

/-!
# C10, continued — calls that FAIL and leave the handle alive; a LIVE holder stalled inside its lock section

`Model/ClusterLive.lean` extends the alphabet of API calls and kills by

* `failWrite op k`: the `(k+1)`-th file write of the call raises OSError; the first `k` writes are on disk, the deadlock
  marker is created, and the SAME handle is used afterwards, holding what `_serialize` / `_serialize_jobs` had assigned in
  memory before the failing write (the mutation of the call and the bumped version number; the config hash if the version
  file was written).  Calls that raise without a write failure (unknown job name → KeyError, an assertion) are ordinary
  API operations: `step` keeps the partly updated copy in the handle;
* `stallBegin op k` / `stallEnd`: the call hangs right before its `(k+1)`-th file write, alive and inside its lock
  section, while the other handles act.

The model's handle has NO memory of a version check that passed earlier: every write compares the handle's version with
the version file at the time of the write.  So the history-free rejection theorems apply to a handle that failed an
operation exactly as to any other (`C10_failed_handle_still_refused`).  The invariant "no handle's copy is ahead of a
version file" (`VerAhead`; after a kill the handle is gone) survives a failed write because the `except` handlers of
`_serialize` / `_serialize_jobs` roll the version bump back: `C10_failed_write_not_ahead` (findings/f9f is the defect
the handlers repair).
-/

namespace Jade.C10
open Jade.Cluster Jade.Gen.Cluster

/-- The extension is conservative: a history of API calls and kills runs in the extended system exactly as in the system
    of the theorems of `Props/C10Crash.lean` (same results, same state, no call parked). -/
theorem C10_live_extension_conservative (t : TSys) (ops : List TOp) :
    (runF (FSys.ofT t) (ops.map FOp.ofT)).2 = (runT t ops).2.map FRes.ofT ∧
    execF (FSys.ofT t) (ops.map FOp.ofT) = FSys.ofT (execT t ops) :=
  ⟨runF_base ops t, execF_base ops t⟩

/-- MUTUAL EXCLUSION AGAINST A LIVE HOLDER.  While a call is stalled inside the lock section (the lock file is present -
    however old it is: the model has no notion of its age), every operation of every other process that takes the cluster
    lock - an API call (load / promote / demote / update / mark_* / complete_hpc_job_id / deserialize_jobs /
    are_all_jobs_complete / reading the status), with or without a kill point or a failing write in it, or a call that
    would itself stall - fails with `filelock.Timeout` (or was not invoked: no handle in that slot / the slot is the
    stalled process's own) and leaves files, lock marker, all handles and the parked call exactly as they were. -/
theorem C10_live_holder_excludes (f : FSys) (fop : FOp) (op : Op) (hc : fop.call = some op)
    (hheld : f.t.s.disk.marker = true) (hl : op.takesLock = true) :
    ((stepF f fop).2 = .res (.err .lockTimeout) ∨ (stepF f fop).2 = .res .noHandle ∨ (stepF f fop).2 = .busy) ∧
    (stepF f fop).1 = f := by
  rcases stepF_cases f fop with h | ⟨hb, _⟩ | ⟨_, h⟩
  · rw [h]; exact ⟨Or.inr (Or.inr rfl), rfl⟩
  · rw [hc] at hb; cases hb; cases hl
  · rw [h]
    rcases apiT_locked_out f.t op hheld hl with ha | ha <;> obtain ⟨h1, h2⟩ := apiT_noop ha <;>
      cases fop with
      | stallEnd => cases hc
      | failWrite op' k torn => cases hc; simp [h2]
      | stallBegin op' k => cases hc; simp [stallBeginF_noop ha]
      | base top =>
        cases top with
        | crash op' k g torn => cases hc; simp [h1, stepT, FRes.ofT]
        | api op' => cases hc; simp [stepT, ha, FRes.ofT]

/-- … and the hypothesis "the lock file is present" holds as long as the call is parked: after EVERY history of API calls,
    kills, failing writes and stalls from `Cluster.create` on, a parked call's lock file is present (nobody removes it: the
    lock library's removal of stale markers does not apply to the marker of a live holder, and no code path of
    `cluster.py` deletes a lock file it did not create). -/
theorem C10_parked_call_keeps_lock (host : Host) (spec : List (List JobId × Bool)) (brk : Bool) (ops : List FOp) :
    (execF (FSys.ofT (TSys.ofSys (create host spec brk))) ops).pending.isSome = true →
    (execF (FSys.ofT (TSys.ofSys (create host spec brk))) ops).t.s.disk.marker = true :=
  execF_held ops _ (fun h => by cases h)

/-- A parked call really holds the lock: `stallBegin` leaves the lock file present whenever it parks. -/
theorem C10_stalled_call_holds_lock (f : FSys) (op : Op) (k : Nat) (hs : (stallBeginF f op k).2 = .stalled) :
    (stallBeginF f op k).1.t.s.disk.marker = true ∧ (stallBeginF f op k).1.pending.isSome = true := by
  simp only [stallBeginF] at hs ⊢
  by_cases hn : (op.stallable && decide (k < (writesOf f.t.s.disk (apiT f.t op).1.s.disk).length)) = true
  · simp [hn]
  · simp [hn] at hs

/-- A HANDLE THAT FAILED AN OPERATION IS STILL REFUSED WHEN STALE.  Take ANY state `f` of the extended system in which no
    call is parked, no version file is empty and the lock is free - in particular every state reached after calls of handle
    `h` that raised (KeyError / assertion inside the locked update: `step`; OSError at one of the file writes:
    `failWrite`), after the marker was cleared and other handles changed the files.  If the config copy of `h` is out of
    date (its version differs from `config_version.txt`) then `update_job_status` and `mark_canceled` raise the version
    mismatch, promotion and demotion do not succeed, and in every case the four files are unchanged.  (The handle carries no
    memory of an earlier, passed version check: `Handle` has no such field and `step` reads the version file at every
    write.) -/
theorem C10_failed_handle_still_refused (f : FSys) (h : Hid) (x : Handle) (hx : f.t.s.handles h = some x)
    (hidle : f.pending = none) (hc : f.t.cfgVerTorn = false) (hj : f.t.jsVerTorn = false)
    (hfree : f.t.s.disk.marker = false) (hstale : x.cfg.version ≠ f.t.s.disk.cfgVer) :
    (∀ a : UpdateArgs, (stepF f (.base (.api (.update h a)))).2 = .res (.err .versionMismatch) ∧
        (stepF f (.base (.api (.update h a)))).1.t.s.disk = { f.t.s.disk with marker := true }) ∧
    ((stepF f (.base (.api (.markCanceled h)))).2 = .res (.err .versionMismatch) ∧
        (stepF f (.base (.api (.markCanceled h)))).1.t.s.disk = { f.t.s.disk with marker := true }) ∧
    ((stepF f (.base (.api (.promote h)))).2 ≠ .res (.bool true) ∧
        (stepF f (.base (.api (.promote h)))).1.t.s.disk.files = f.t.s.disk.files) ∧
    ((stepF f (.base (.api (.demote h)))).2 ≠ .res .ok ∧
        (stepF f (.base (.api (.demote h)))).1.t.s.disk = { f.t.s.disk with marker := true }) := by
  obtain ⟨hu, hm, hp, hd1, hd2, _⟩ := C10_stale_rejected f.t.s h x hx hfree hstale
  simp only [stepF_idle_api f _ hidle hc hj, FSys.ofT, TSys.ofSys, FRes.res.injEq, ne_eq]
  refine ⟨hu, hm, ?_, ?_, hd2⟩
  · rcases hp with ⟨_, b, c⟩ | ⟨_, b, c⟩ <;> rw [b, c] <;> exact ⟨by simp, rfl⟩
  · rcases hd1 with ⟨_, b⟩ | ⟨_, b⟩ <;> rw [b] <;> simp

/-- … and likewise for its JOB-STATUS copy: `update_job_status` and `complete_hpc_job_id` by a handle whose job-status version
    differs from `job_status_version.txt` do not succeed and leave the four files unchanged. -/
theorem C10_failed_handle_jobstatus_still_refused (f : FSys) (h : Hid) (x : Handle) (j : JsView) (hx : f.t.s.handles h = some x)
    (hjs : x.js = some j) (hidle : f.pending = none) (hc : f.t.cfgVerTorn = false) (hj : f.t.jsVerTorn = false)
    (hfree : f.t.s.disk.marker = false) (hstale : j.version ≠ f.t.s.disk.jsVer) :
    (∀ a : UpdateArgs, (stepF f (.base (.api (.update h a)))).2 = .res (.err .versionMismatch) ∧
        (stepF f (.base (.api (.update h a)))).1.t.s.disk = { f.t.s.disk with marker := true }) ∧
    (∀ id : Nat, (stepF f (.base (.api (.completeHpcId h id)))).2 ≠ .res .ok ∧
        (stepF f (.base (.api (.completeHpcId h id)))).1.t.s.disk = { f.t.s.disk with marker := true }) := by
  obtain ⟨hu, hcid⟩ := C10_stale_jobstatus_rejected f.t.s h x j hx hjs hfree hstale
  simp only [stepF_idle_api f _ hidle hc hj, FSys.ofT, TSys.ofSys, FRes.res.injEq, ne_eq]
  refine ⟨hu, fun id => ⟨?_, (hcid id).2⟩⟩
  rcases (hcid id).1 with ⟨_, b⟩ | ⟨_, b⟩ <;> rw [b] <;> simp

/-! ## failed writes never put a handle ahead of a version file (findings/f9f, repaired) -/

/-- After EVERY tamper-free history of API calls, kills between file writes and FAILED WRITES at arbitrary file-write
    boundaries (the handle of the failed call lives on): no handle's copy is AHEAD of a version file, and no version file is
    behind the version inside its data file.  A failed write of the VERSION file rolls the in-memory bump back (the `except`
    handler of `_serialize` / `_serialize_jobs`, regenerated as `cfgVersionAfterFailedWrite` / `jsVersionAfterFailedWrite`): the
    handle holds the on-disk version again.  A failed write of the DATA file leaves version file and handle at the same,
    bumped number - with newer data in memory than in the data file; every other process holds a smaller number and is
    refused until that handle writes again.  (Before the repair the first part was false: `Props` history of findings/f9f.) -/
theorem C10_failed_write_not_ahead (host : Host) (spec : List (List JobId × Bool)) (brk : Bool) (ops : List FOp)
    (hp : ∀ op ∈ ops, op.plain = true ∧ op.isTamper = false) :
    (∀ (h : Hid) (x : Handle), (execF (FSys.ofT (TSys.ofSys (create host spec brk))) ops).t.s.handles h = some x →
      x.cfg.version ≤ (execF (FSys.ofT (TSys.ofSys (create host spec brk))) ops).t.s.disk.cfgVer) ∧
    (∀ (h : Hid) (x : Handle) (j : JsView), (execF (FSys.ofT (TSys.ofSys (create host spec brk))) ops).t.s.handles h = some x →
      x.js = some j → j.version ≤ (execF (FSys.ofT (TSys.ofSys (create host spec brk))) ops).t.s.disk.jsVer) ∧
    (execF (FSys.ofT (TSys.ofSys (create host spec brk))) ops).t.s.disk.cfg.version ≤
      (execF (FSys.ofT (TSys.ofSys (create host spec brk))) ops).t.s.disk.cfgVer ∧
    (execF (FSys.ofT (TSys.ofSys (create host spec brk))) ops).t.s.disk.js.version ≤
      (execF (FSys.ofT (TSys.ofSys (create host spec brk))) ops).t.s.disk.jsVer := by
  have hP := execF_plainAhead ops _ (PlainAhead.create host spec brk) hp
  exact ⟨hP.ahead.cfgHandle, hP.ahead.jsHandle, hP.ahead.cfgData, hP.ahead.jsData⟩

/-- Consequently, in every state reached by API calls, kills and failed writes, a handle - in particular one whose own
    earlier write failed - whose copy is OLDER THAN THE CONTENTS on disk cannot write it: its version differs from the version
    file, `update_job_status` / `mark_canceled` raise the version mismatch, promotion and demotion do not succeed, and the four
    files are unchanged; likewise `update_job_status` / `complete_hpc_job_id` for an older job-status copy. -/
theorem C10_older_copy_rejected_after_failed_writes (host : Host) (spec : List (List JobId × Bool)) (brk : Bool) (ops : List FOp)
    (hp : ∀ op ∈ ops, op.plain = true ∧ op.isTamper = false) (f : FSys)
    (hf : f = execF (FSys.ofT (TSys.ofSys (create host spec brk))) ops)
    (h : Hid) (x : Handle) (hx : f.t.s.handles h = some x) (hfree : f.t.s.disk.marker = false) :
    (x.cfg.version < f.t.s.disk.cfg.version →
      x.cfg.version ≠ f.t.s.disk.cfgVer ∧
      (∀ a : UpdateArgs, (stepF f (.base (.api (.update h a)))).2 = .res (.err .versionMismatch) ∧
          (stepF f (.base (.api (.update h a)))).1.t.s.disk = { f.t.s.disk with marker := true }) ∧
      ((stepF f (.base (.api (.markCanceled h)))).2 = .res (.err .versionMismatch) ∧
          (stepF f (.base (.api (.markCanceled h)))).1.t.s.disk = { f.t.s.disk with marker := true }) ∧
      ((stepF f (.base (.api (.promote h)))).2 ≠ .res (.bool true) ∧
          (stepF f (.base (.api (.promote h)))).1.t.s.disk.files = f.t.s.disk.files) ∧
      ((stepF f (.base (.api (.demote h)))).2 ≠ .res .ok ∧
          (stepF f (.base (.api (.demote h)))).1.t.s.disk = { f.t.s.disk with marker := true })) ∧
    (∀ j : JsView, x.js = some j → j.version < f.t.s.disk.js.version →
      j.version ≠ f.t.s.disk.jsVer ∧
      (∀ a : UpdateArgs, (stepF f (.base (.api (.update h a)))).2 = .res (.err .versionMismatch) ∧
          (stepF f (.base (.api (.update h a)))).1.t.s.disk = { f.t.s.disk with marker := true }) ∧
      (∀ id : Nat, (stepF f (.base (.api (.completeHpcId h id)))).2 ≠ .res .ok ∧
          (stepF f (.base (.api (.completeHpcId h id)))).1.t.s.disk = { f.t.s.disk with marker := true })) := by
  have hP := execF_plainAhead ops _ (PlainAhead.create host spec brk) hp
  rw [← hf] at hP
  have hc : f.t.cfgVerTorn = false := by rw [hP.plain]; rfl
  have hj : f.t.jsVerTorn = false := by rw [hP.plain]; rfl
  constructor
  · intro hold
    have hstale := Nat.ne_of_lt (Nat.lt_of_lt_of_le hold hP.ahead.cfgData)
    exact ⟨hstale, C10_failed_handle_still_refused f h x hx hP.idle hc hj hfree hstale⟩
  · intro j hjs hold
    have hstale := Nat.ne_of_lt (Nat.lt_of_lt_of_le hold hP.ahead.jsData)
    exact ⟨hstale, C10_failed_handle_jobstatus_still_refused f h x j hx hjs hP.idle hc hj hfree hstale⟩

/-! ## non-vacuity -/

private def twoJobs : List (List JobId × Bool) := [([], false), ([], false)]
private def upd0 (sub comp : List JobId) (ids : List Nat) : UpdateArgs :=
  { submitted := sub, blocked := [], canceled := [], completed := comp, hpcIds := ids, batchIdx := 2 }
private def start : FSys := FSys.ofT (TSys.ofSys (create 0 twoJobs true))

/-- The creator's update names a job that does not exist (KeyError inside the locked update, after the version pre-check):
    the marker is cleared, the creator demotes, host 1 is promoted and records a batch; the creator's handle - out of date
    now - is refused promotion, `complete_hpc_job_id` and `mark_canceled` with the version mismatch. -/
example :
    (runF start [.base (.api (.update 0 (upd0 [0, 2] [] [1]))), .base (.api .breakMarker), .base (.api (.demote 0)),
      .base (.api (.load 1 1 true true)), .base (.api (.update 1 (upd0 [1] [] [7]))),
      .base (.api (.promote 0)), .base (.api .breakMarker), .base (.api (.completeHpcId 0 1)), .base (.api .breakMarker),
      .base (.api (.markCanceled 0))]).2 =
    [.res (.err .keyError), .res .ok, .res .ok, .res (.bool true), .res .ok,
     .res (.err .versionMismatch), .res .ok, .res (.err .versionMismatch), .res .ok, .res (.err .versionMismatch)] := by
  decide

/-- Nobody holds the role; the promotion of host 1 hangs right before its first file write (after the version compare).
    Host 2's promotion and the old handle's promotion time out at the lock; the marker of the live holder is not "stale";
    the call finishes: host 1 is the only submitter, and host 2 is refused afterwards. -/
example :
    (runF start [.base (.api (.demote 0)), .stallBegin (.load 1 1 true true) 0, .base (.api (.load 2 2 true true)),
      .base (.api (.promote 0)), .base (.api .breakMarker), .base (.api .read), .stallEnd,
      .base (.api (.load 2 2 true true))]).2 =
    [.res .ok, .stalled, .res (.err .lockTimeout), .res (.err .lockTimeout), .res .disabled, .res (.err .lockTimeout),
     .res (.bool true), .res (.bool false)] := by
  decide

/-- REGRESSION for findings/f9f (repaired): the write of `config_version.txt` in the creator's demotion raises OSError; the
    bump of `config.version` is rolled back, so the handle holds the on-disk version again.  Another process writes the config
    once (step 5); the failed handle's out-of-date copy is REFUSED (step 6) - before the repair it held the number the other
    process wrote and was accepted. -/
example :
    (runF start [.failWrite (.demote 0) 0, .base (.api .breakMarker), .base (.api (.load 1 1 false true)),
      .base (.api (.markCanceled 1)), .base (.api (.markCanceled 0))]).2 =
    [.res (.err .ioError), .res .ok, .res (.bool false), .res .ok, .res (.err .versionMismatch)] := by
  decide

end Jade.C10
