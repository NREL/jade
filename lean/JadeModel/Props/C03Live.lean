import JadeModel.Proofs.SystemLive
import JadeModel.Props.C03
import JadeModel.Props.C05

/-!
# C03 / C05 — a fault-free submission that is marked complete has no missing job

`Jade.Sys.runP` = the executions of the system model (`Jade.Sys.step`: every schedule of submitter rounds,
node runners and the scheduler, every batching the submit loop may choose, every node limit) **without
faults** (`Op.faulty`: kills, exceptions, half-written status, lost batches, failed sbatch, cancel-jobs) in
which every round does what `HpcSubmitter.run` does in every round and what the history replay checks on
the fault-free real executions: each pass of `_update_completed_jobs` — and the end of its loop — has moved
the result file of every batch the round no longer believes active (`collectedAll`), and the submit loop
leaves an unblocked NOT_SUBMITTED job behind only when the node limit is reached (`roundDone`, C07).

* `C03_complete_no_missing`: for every scenario with an acyclic configuration and `max_nodes ≥ 1`, in every
  such execution, once the completion flag is on disk **every configured job has a row** in the
  consolidated results file.
* `C03_decided_no_missing`: already when a round has decided "complete" (`_is_complete` True — including the
  *forced* branch "no active HPC job ids").
* `C05_flag_only_when_all_rows`: `mark_complete` — and the `results.json` summary written before it — happen
  only on a full consolidated file: the summary lists no missing job.
* `C03_complete_results_are_reference`: so the completed submission has, for every job, a row carrying the
  reference outcome of the dependency graph (with `C03_rows_equal_reference`).

The proof (Proofs/SystemLive*.lean) is an invariant of `stepP`: a SUBMITTED job is in a batch the role
holder believes active or its row is on its way through the holder's collection; a batch ends only with a
row for each of its jobs; a remaining blocker is never DONE; hence with an empty HPC queue after a round
nothing is SUBMITTED, and — by induction along the acyclic graph — nothing NOT_SUBMITTED.
-/

namespace Jade.C03Live
open Jade.Sys Jade.Ref

/-- **No missing jobs at completion.** -/
theorem C03_complete_no_missing (sc : Scn) (rank : JobId → Nat) (hac : Acyclic sc.graph rank)
    (hmax : 1 ≤ sc.maxNodes) (ops : List Op) (s : Sys) (h : runP (init sc) ops = some s)
    (hc : s.disk.complete = true) : ∀ j : JobId, j < sc.n → ∃ r ∈ s.processed, r.job = j :=
  complete_no_missing sc rank hac hmax ops s h hc

/-- the intermediate form: the decision "complete" of a (non-cancel) round is taken on a full file -/
theorem C03_decided_no_missing (sc : Scn) (rank : JobId → Nat) (hac : Acyclic sc.graph rank)
    (hmax : 1 ≤ sc.maxNodes) (ops : List Op) (s : Sys) (h : runP (init sc) ops = some s)
    (p : Pid) (x : SubP) (hx : getSub s p = some x) (hpc : x.pc = .unmarked) (hd : x.decided = true) :
    ∀ j : JobId, j < sc.n → ∃ r ∈ s.processed, r.job = j := by
  obtain ⟨hf, hsc⟩ := liveF_reach hac hmax h
  exact fun j hj => hf.decidedAll p true x (getSub_eq hx) (.inl ⟨hpc, hd⟩) j (hsc ▸ hj)

/-- **The flag is set only when every job has a row** (and so is the summary written before it) -/
theorem C05_flag_only_when_all_rows (sc : Scn) (rank : JobId → Nat) (hac : Acyclic sc.graph rank)
    (hmax : 1 ≤ sc.maxNodes) (ops : List Op) (s s' : Sys) (h : runP (init sc) ops = some s) (p : Pid)
    (hf : stepP s (.flag p) = some s' ∨ stepP s (.summary p) = some s') :
    ∀ j : JobId, j < sc.n → ∃ r ∈ s.processed, r.job = j := by
  obtain ⟨hF, hsc⟩ := liveF_reach hac hmax h
  intro j hj
  rcases hf with hf | hf
  · cases step_sound (stepP_step hf) with
    | flag hp hg => exact hF.decidedAll p true _ hp (.inr hg.1) j (hsc ▸ hj)
  · cases step_sound (stepP_step hf) with
    | summary hp hg => exact hF.decidedAll p true _ hp (.inl hg) j (hsc ▸ hj)

/-- a completed fault-free submission has, for every job, a row with the reference outcome -/
theorem C03_complete_results_are_reference (sc : Scn) (rank : JobId → Nat) (hac : Acyclic sc.graph rank)
    (hmax : 1 ≤ sc.maxNodes) (ops : List Op) (s : Sys) (h : runP (init sc) ops = some s)
    (hc : s.disk.complete = true) :
    ∀ j : JobId, j < sc.n → ∃ r ∈ s.processed, r.job = j ∧ r.outcome = ref sc.graph j := by
  intro j hj
  obtain ⟨r, hr, rfl⟩ := complete_no_missing sc rank hac hmax ops s h hc j hj
  exact ⟨r, hr, rfl, Jade.C03.C03_rows_equal_reference sc rank hac ops s (runP_run ops h) r (Or.inl hr) hj⟩

/-- a fault-free execution is an execution: everything proved for `run` applies -/
theorem C03_plain_is_run : type_of% @Jade.Sys.runP_run := @Jade.Sys.runP_run

/-! ## Non-vacuity: complete fault-free runs accepted by `runP` -/

/-- three rounds, two batches (C05's demo): flag set, rows for all three jobs -/
example : ((runP (init Jade.C01.demoScn) (Jade.C05.demoOps ++ Jade.C05.round2 ++ Jade.C05.round3)).map fun s =>
    (s.disk.complete, s.completions, s.processed.map (·.job))) = some (true, 1, [0, 1, 2]) := by decide

/-- C03's demo continued to completion: job 0 fails, job 1 is canceled on the node, job 2 by the submitter,
    job 3 runs in a second batch; the last round collects, decides, summarizes and sets the flag -/
def demoOps : List Op :=
  Jade.C03.demoOps ++
  [.unmark 3, .demote 3, .exit 3, .nodeEnd 2, .startBatch 101 4 1, .nodeStart 4 3, .nodeRow 4 3, .nodeEnd 4,
   .spawnSub 5 false, .promote 5, .poll 5 [100, 101], .collectFile 5 2, .passEnd 5 [], .collectDone 5, .mark 5,
   .persist 5, .unmark 5, .summary 5, .flag 5, .demote 5]

example : ((runP (init Jade.C03.demoScn) demoOps).map fun s =>
    (s.disk.complete, s.processed.map fun r => (r.job, r.outcome)))
    = some (true, [(0, ⟨false, 3⟩), (1, ⟨true, 1⟩), (2, ⟨true, 1⟩), (3, ⟨false, 0⟩)]) := by decide

/-- the extra guards bite: a round that skips the collection of an ended batch is not a fault-free round
    (`run` accepts it — and then forces completion with job rows missing — `runP` does not) -/
def skipOps : List Op :=
  Jade.C05.demoOps ++ [.spawnSub 3 false, .promote 3, .poll 3 [100], .collectDone 3]

example : (run (init Jade.C01.demoScn) skipOps).isSome = true ∧ (runP (init Jade.C01.demoScn) skipOps).isSome = false := by
  decide

end Jade.C03Live
