import JadeModel.Proofs.SystemUniqueDefs
import JadeModel.Proofs.SystemNode

/-! One row per job (C03): the invariants `PlainA/B/C` along executions without an exception inside a
    submitter round, and along fault-free executions (`runP`). -/

namespace Jade.Sys

theorem plainA_step {s s' : Sys} {op : Op} (hb : BatchInv s) (hi : PlainA s) (h : Step s op s')
    (hr : op.risky = false) : PlainA s' where
  noFail := by
    induction h <;> (try cases hr) <;> intro q a y hq <;> frame_simp at hq
    all_goals proc_cases at hq from hi.noFail <;> grind [SubP.load]
  pendMarked := by
    induction h <;> (try cases hr) <;> intro q a y hq <;> frame_simp at hq
    all_goals proc_cases at hq from hi.pendMarked <;> grind [SubP.load]
  quiet := by
    induction h <;> (try cases hr) <;> intro q a y hq <;> frame_simp at hq
    all_goals proc_cases at hq from hi.quiet <;> grind [SubP.load]
  quietNewly := by
    induction h <;> (try cases hr) <;> intro q a y hq <;> frame_simp at hq
    all_goals proc_cases at hq from hi.quietNewly <;> grind [SubP.load]
  batchJobs := batchSt_step hb hi.pendMarked hr h hi.batchJobs

theorem PlainA.ns_not_batched {s : Sys} (hb : BatchInv s) (ha : PlainA s) {p : Pid} {a : Bool} {x : SubP}
    {j : JobId} (hp : s.procs p = .sub a x) (hh : holds x.pc = true) (h1 : x.loc.st j = .ns) (h2 : j ∉ x.pend) :
    ∀ B ∈ s.batches, j ∉ B.jobs := by
  intro B hB hj
  rcases ha.batchJobs B hB j hj with hd | hpd
  · exact hb.locSt p a x hp hh j hd h1
  · have := hb.role.holder p a x hp hh
    grind [mem_holderPend, holderSub_eq_some]

theorem plainB_step {s s' : Sys} {op : Op} (hn : NodeInv s) (ha : PlainA s) (hi : PlainB s)
    (h : Step s op s') (hr : op.risky = false) : PlainB s' where
  locAhead := by
    induction h <;> (try cases hr) <;> intro q a y hq <;> frame_simp at hq
    case persist => proc_cases at hq from hi.locAhead <;> grind [→ hn.batch.role.holder, holds, persistStatus]
    all_goals proc_cases at hq from hi.locAhead <;> grind [holds, SubP.load]
  cancelDone := by
    induction h <;> (try cases hr) <;> intro q a y hq <;> frame_simp at hq
    all_goals proc_cases at hq from hi.cancelDone <;> grind [holds, SubP.load, persistStatus]
  cancelNoBatch := by
    induction h <;> (try cases hr) <;> intro q a y hq <;> frame_simp at hq
    case passEnd hp hg =>
      -- the pass cancels NOT_SUBMITTED jobs only
      have := ha.pendMarked _ _ _ hp
      have := fun j => ha.ns_not_batched hn.batch (j := j) hp
      proc_cases at hq from hi.cancelNoBatch <;> grind [cancelSetOk_iff, mustCancel_iff, holds]
    case sbatch hp hg _ | sbatchFailed hp hg =>
      have := hi.cancelDone; have := hn.batch.role.holder
      proc_cases at hq from hi.cancelNoBatch <;> grind [holds]
    all_goals proc_cases at hq from hi.cancelNoBatch <;> grind [SubP.load, holds]
  cancelNodup := by
    induction h <;> (try cases hr) <;> intro q a y hq <;> frame_simp at hq
    all_goals proc_cases at hq from hi.cancelNodup <;> grind [holds, SubP.load]
  rowKnown := by
    have := hi.rowKnown
    simp only [HasRow, holderKnows_iff, holderSub_eq_some] at *
    induction h <;> (try cases hr) <;> intro j hj <;> frame_simp at hj <;>
      (try simp only [hasRowF_move, hasRowF_snocProc, hasRowF_snocNode] at hj)
    case cancelRow hp ht hg =>
      have := hi.cancelDone _ _ _ hp
      have := hn.batch.role.holder _ _ _ hp
      grind [holds]
    case persist hp hg =>
      have := hn.batch.locSt _ _ _ hp
      have := hn.batch.role.holder _ _ _ hp
      grind [holds, persistStatus]
    case demote hp hg hs =>
      -- the holder leaves: what it knew and the status file does not is a row of a pass it has finished
      have := hi.locAhead _ _ _ hp
      have := ha.quiet _ _ _ hp
      have := ha.quietNewly _ _ _ hp
      have := ha.pendMarked _ _ _ hp
      have := ha.noFail _ _ _ hp
      grind [holds]
    case nodeRow hp hg | nodeCancel hp hg =>
      -- a job on a node is in a batch, hence on disk or pending with the holder
      obtain ⟨B, hB, -, -, hq, hrun⟩ := hn.ofBatch _ _ _ hp
      have := ha.batchJobs B hB
      grind [mem_holderPend, holderSub_eq_some]
    all_goals replace this := this j hj; grind [SubP.load]

theorem ns_no_row {s : Sys} (hb : BatchInv s) (hi : PlainB s) {p : Pid} {a : Bool} {x : SubP} {j : JobId}
    (hp : s.procs p = .sub a x) (hh : holds x.pc = true) (h1 : x.loc.st j = .ns) (h2 : j ∉ x.pend) :
    ¬ HasRow s j := by
  intro hr
  rcases hi.rowKnown j hr with hd | hk
  · exact hb.locSt p a x hp hh j hd h1
  · have := hb.role.holder p a x hp hh
    grind [holderKnows_iff, holderSub_eq_some]

theorem plainC_nodeNoRow {s s' : Sys} {op : Op} (hn : NodeInv s) (hb : PlainB s) (hi : PlainC s) (h : Step s op s') :
    ∀ p a n, s'.procs p = .node a n → ∀ j, j ∈ n.queued ∨ j ∈ n.running → ¬ HasRow s' j :=
  nodeNoRow_step hn (fun p a n hp j hj => hj.elim (hi.queuedNoRow p a n hp j) (hi.runningNoRow p a n hp j))
    hi.queuedRunning hi.pendingNoRow
    (fun q x j rest hq hpc ht => not_on_node hn (hb.cancelNoBatch q true x hq (by rw [hpc]; rfl) j (by simp [ht]))) h

/-- whoever is about to write a row for a job finds no row for it -/
theorem plainC_step {s s' : Sys} {op : Op} (hn : NodeInv s) (ha : PlainA s) (hb : PlainB s) (hi : PlainC s)
    (h : Step s op s') (hr : op.risky = false) : PlainC s' where
  queuedNoRow p a n hp j hj := plainC_nodeNoRow hn hb hi h p a n hp j (.inl hj)
  runningNoRow p a n hp j hj := plainC_nodeNoRow hn hb hi h p a n hp j (.inr hj)
  queuedRunning := queuedRunning_step hi.queuedRunning h
  cancelNoRow := cancelNoRow_step hn hi.cancelNoRow hb.cancelNodup (fun p x hp hh j => ns_no_row hn.batch hb hp hh)
    ha.pendMarked hb.cancelNoBatch hr h
  pendingNoRow := pendingNoRow_step hn hi.pendingNoRow
    (fun p x hp hpc j => ns_no_row hn.batch hb hp (by rw [hpc]; rfl))
    (fun q x j rest hq hpc ht => hb.cancelNoBatch q true x hq (by rw [hpc]; rfl) j (by simp [ht])) h
  uniq := by
    have := hi.uniq
    induction h <;> (try cases hr) <;> frame_goal
    case collectFile => exact uniqF_move this _
    case cancelRow hp ht hg =>
      exact uniqF_snocProc this _ (hi.cancelNoRow _ _ _ hp (by simp [hg, holds]) _ (by simp [ht]))
    case nodeRow hp hg => exact uniqF_snocNode this _ _ (hi.runningNoRow _ _ _ hp _ hg)
    case nodeCancel hp hg => exact uniqF_snocNode this _ _ (hi.queuedNoRow _ _ _ hp _ hg.1)
    all_goals exact this

/-- no event of the history is an exception inside a submitter round (`fail`, torn `persist`, torn
    `_move_results`); kills, lost batches, failed `sbatch`, cancel-jobs are allowed -/
def Calm (ops : List Op) : Prop := ∀ op ∈ ops, op.risky = false

theorem plain_run {s s' : Sys} (ops : List Op) (hn : NodeInv s) (ha : PlainA s) (hb : PlainB s) (hc : PlainC s)
    (h : run s ops = some s') (hf : Calm ops) : NodeInv s' ∧ PlainA s' ∧ PlainB s' ∧ PlainC s' :=
  run_inv_of (P := fun s => NodeInv s ∧ PlainA s ∧ PlainB s ∧ PlainC s) (G := fun op => op.risky = false)
    (fun ⟨hn, ha, hb, hc⟩ hr h => ⟨nodeInv_step hn h, plainA_step hn.batch ha h hr,
      plainB_step hn ha hb h hr, plainC_step hn ha hb hc h hr⟩)
    ops ⟨hn, ha, hb, hc⟩ hf h

theorem plain_reach (sc : Scn) (ops : List Op) (s : Sys) (h : run (init sc) ops = some s) (hf : Calm ops) :
    NodeInv s ∧ PlainA s ∧ PlainB s ∧ PlainC s :=
  plain_run ops (nodeInv_init sc) (plainA_init sc) (plainB_init sc) (plainC_init sc) h hf

/-- every event of a fault-free execution is fault-free -/
theorem runP_not_faulty {s s' : Sys} (ops : List Op) (h : runP s ops = some s') : ∀ op ∈ ops, op.faulty = false := by
  induction ops generalizing s with
  | nil => intro op hop; cases hop
  | cons o ops ih =>
    simp only [runP] at h
    split at h
    · next s1 hs =>
      intro op hop
      rcases List.mem_cons.1 hop with rfl | hop
      · have hg := stepP_guard hs
        simp only [extraGuard, Bool.and_eq_true, Bool.not_eq_true'] at hg
        exact hg.1
      · exact ih h op hop
    · cases h

theorem runP_calm {s s' : Sys} (ops : List Op) (h : runP s ops = some s') : Calm ops :=
  fun op hop => risky_of_faulty (runP_not_faulty ops h op hop)

/-- the rows on disk of state `s` are for pairwise distinct jobs -/
def RowsUnique (s : Sys) : Prop := UniqF s.processed s.nodeFile

/-- **no exception in a submitter round ⇒ one row per job** -/
theorem rowsUnique_calm (sc : Scn) (ops : List Op) (s : Sys) (h : run (init sc) ops = some s) (hf : Calm ops) :
    RowsUnique s :=
  (plain_reach sc ops s h hf).2.2.2.uniq

theorem rowsUnique_runP (sc : Scn) (ops : List Op) (s : Sys) (h : runP (init sc) ops = some s) : RowsUnique s :=
  rowsUnique_calm sc ops s (runP_run ops h) (runP_calm ops h)

/-- two rows on disk for the same job are the same row of the same file -/
theorem row_unique_calm (sc : Scn) (ops : List Op) (s : Sys) (h : run (init sc) ops = some s) (hf : Calm ops)
    (r r' : Row) (hr : OnDisk s r) (hr' : OnDisk s r') (hj : r.job = r'.job) : r = r' :=
  (rowsUnique_calm sc ops s h hf).row_unique hr hr' hj

theorem flatMap_files_nodup {nf : Bid → List Row} (hu : UniqN nf) (bs : List Batch)
    (hb : (bs.map (·.bid)).Nodup) : ((bs.flatMap fun b => nf b.bid).map (·.job)).Nodup := by
  induction bs with
  | nil => simp
  | cons B bs ih =>
    simp only [List.map_cons, List.nodup_cons, List.mem_map, not_exists, not_and] at hb
    simp only [List.flatMap_cons, List.map_append]
    rw [List.nodup_append]
    refine ⟨hu.node B.bid, ih hb.2, ?_⟩
    intro a ha c hc
    obtain ⟨r, hr, rfl⟩ := List.mem_map.1 ha
    obtain ⟨r', hr', rfl⟩ := List.mem_map.1 hc
    obtain ⟨B', hB', hr''⟩ := List.mem_flatMap.1 hr'
    exact hu.nodeNode B.bid B'.bid (fun e => hb.1 B' hB' e.symm) r hr r' hr''

/-- the counting form: the model's list of all rows (`allRows`: consolidated file, then the node file of
    every batch) names no job twice -/
theorem allRows_nodup {s : Sys} (hu : RowsUnique s) (hb : (s.batches.map (·.bid)).Nodup) :
    ((allRows s).map (·.job)).Nodup := by
  unfold allRows
  rw [List.map_append, List.nodup_append]
  refine ⟨hu.proc, flatMap_files_nodup hu.nodes s.batches hb, ?_⟩
  have := hu.procNode
  grind

end Jade.Sys
