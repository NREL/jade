import JadeModel.Proofs.SystemProgress
import JadeModel.Proofs.SystemCap
import JadeModel.Proofs.SystemGate
import JadeModel.Proofs.SystemOutcome
import JadeModel.Proofs.SystemLiveDefs

/-! Fault-free executions (`Jade.Sys.stepP` / `runP`): **the completion decision is sound**.

The invariants of `SystemLiveDefs` are preserved by every fault-free event (`StepP`).  In the step proofs, after
`proc_cases at hq from hi.c` the goals that are left have the clause `c` of `s` for the entry concerned in the context;
the one tagged `….inr` is for a process that did not move, left when the event changed a shared field the clause reads.
A clause that reads the rows or the scheduler state, which many events change, frames its goal before `proc_cases`.

* `Live0`: the phase facts of a submitter round, and "no orphaned marker" — which turns the `… ∨ Orphan s`
  conclusions of `BatchInv` / `CapInv` into facts about the current role holder (`holder_tracked`,
  `holder_batch_st`).
* `Live1`, `Live2`: rows behind every DONE state; the accounting of node runners: a batch that ended has a row
  for each job.
* `Live3`: the role holder's copy is ahead of the status file in a controlled way — every collected row is for
  a job that is DONE in the copy or still in this round's pass / newly set, and a round never ends without
  having written that to disk.
* `Live4`: a SUBMITTED job is in a batch that is believed active — or its row is on the way through this
  round's collection.  After the collection loop no uncollected row is left behind for a batch that is not
  believed active.
* `Live5`: a remaining blocker is never DONE (completed jobs are removed from the blocker lists in the pass
  that sees their rows), and a round that ends with an empty HPC queue leaves no unblocked NOT_SUBMITTED job.
* `decision_sound`, `LiveF`: when a fault-free round decides "complete" (all jobs DONE, or forced because no
  batch is believed active), every configured job has a row in the consolidated results file; hence so does
  every job when the completion flag is on disk. -/

namespace Jade.Sys
open Jade.Ref

theorem not_orphan {s : Sys} (hr : RoleInv s) (h0 : Live0 s) : ¬ Orphan s := by
  rintro ⟨hm, hn⟩
  obtain ⟨q, y, hq, hpc⟩ := h0.noOrphan hm
  have h1 := hn q true y hq
  have h2 := hr.marked q true y hq hpc
  rcases hpc with h | h <;> simp [owns, h2, h] at h1

/-- the role holder believes every queued or running batch active -/
theorem holder_tracked {s : Sys} (hc : CapInv s) (h0 : Live0 s) {q : Pid} {a : Bool} {y : SubP}
    (hq : s.procs q = .sub a y) (hh : holds y.pc = true) (k : Hid)
    (hk : s.slurm k = some .running ∨ s.slurm k = some .pending) : k ∈ y.out := by
  have hr := hc.node.batch.role
  rcases hc.tracked k (by rcases hk with hk | hk <;> simp [activeB, hk]) with h | h
  · simpa [trackedIds, holderSub_eq hr hq hh] using h
  · exact absurd h (not_orphan hr h0)

theorem free_tracked {s : Sys} (hc : CapInv s) (h0 : Live0 s) (hs : s.submitter = none) (k : Hid)
    (hk : activeB s k = true) : k ∈ s.disk.ids := by
  have hr := hc.node.batch.role
  rcases hc.tracked k hk with h | h
  · simpa [trackedIds, holderSub, hs] using h
  · exact absurd h (not_orphan hr h0)

/-- a job that is in a batch is not NOT_SUBMITTED for the role holder, unless it was handed over in
    this very round -/
theorem holder_batch_st {s : Sys} (hb : BatchInv s) (h0 : Live0 s) {q : Pid} {a : Bool} {y : SubP}
    (hq : s.procs q = .sub a y) (hh : holds y.pc = true) (B : Batch) (hB : B ∈ s.batches) (j : JobId)
    (hj : j ∈ B.jobs) : y.loc.st j ≠ .ns ∨ j ∈ y.pend := by
  have hr := hb.role
  rcases hb.jobs B hB j hj with h | h | h
  · exact Or.inl (hb.locSt q a y hq hh j h)
  · exact Or.inr (by simpa [holderPend, holderSub_eq hr hq hh] using h)
  · exact absurd h (not_orphan hr h0)

theorem free_batch_st {s : Sys} (hb : BatchInv s) (h0 : Live0 s) (hs : s.submitter = none) (B : Batch)
    (hB : B ∈ s.batches) (j : JobId) (hj : j ∈ B.jobs) : s.disk.st j ≠ .ns := by
  have hr := hb.role
  rcases hb.jobs B hB j hj with h | h | h
  · exact h
  · simp [holderPend, holderSub, hs] at h
  · exact absurd h (not_orphan hr h0)

/-- batch indices identify batches -/
theorem bid_unique {bs : List Batch} (hn : (bs.map (·.bid)).Nodup) {b b' : Batch}
    (hb : b ∈ bs) (hb' : b' ∈ bs) (he : b.bid = b'.bid) : b = b' := by
  induction bs <;> grind

/-- an id that is known to the scheduler and not active has ended -/
theorem ended_of_not_active {s : Sys} {k : Hid} (h1 : s.slurm k ≠ none) (h2 : activeB s k = false) :
    s.slurm k = some .ended := by
  cases hk : s.slurm k with
  | none => exact absurd hk h1
  | some b => cases b <;> simp_all [activeB]

theorem live0_step {s s' : Sys} {op : Op} (hi : Live0 s) (h : StepP s op s') : Live0 s' where
  noOrphan := by
    plain_induction h <;> frame_goal <;> intro hm
    case mark => exact ⟨_, _, if_pos rfl, .inl rfl⟩
    case unmark => cases hm
    -- the owner stays the owner: its own events leave it `marked` or `persisted`
    all_goals
      obtain ⟨q, y, hq, hpc⟩ := hi.noOrphan hm
      refine ⟨q, ?_⟩
      split
      · grind
      · exact ⟨y, hq, hpc⟩
  plain := by
    plain_induction h <;> intro q a y hq <;> proc_cases at hq from hi.plain <;> (frame_goal; grind [SubP.load])
  atLoaded := by
    plain_induction h <;> intro q a y hq <;> proc_cases at hq from hi.atLoaded <;> (frame_goal; grind [SubP.load])
  collected := by
    plain_induction h <;> intro q a y hq <;> proc_cases at hq from hi.collected <;>
      (frame_goal; grind [SubP.load, afterCollect])
  persisted := by
    plain_induction h <;> intro q a y hq <;> proc_cases at hq from hi.persisted <;>
      (frame_goal; grind [SubP.load, afterPersist])
  noPend := by
    plain_induction h <;> intro q a y hq <;> proc_cases at hq from hi.noPend <;>
      (frame_goal; grind [→ hi.atLoaded, SubP.load])

theorem live1_step {s s' : Sys} {op : Op} (h0 : Live0 s) (hi : Live1 s) (h : StepP s op s') : Live1 s' where
  passProc := by
    plain_induction h <;> intro q a y hq <;> proc_cases at hq from hi.passProc <;> (frame_goal; grind [SubP.load])
  newlyProc := by
    plain_induction h <;> intro q a y hq <;> proc_cases at hq from hi.newlyProc <;>
      (frame_goal; grind [hi.passProc, SubP.load])
  locDone := by
    plain_induction h <;> intro q a y hq <;> proc_cases at hq from hi.locDone <;> frame_goal
    case spawnSub | promoteDone | promote => grind [SubP.load, hi.diskDone]
    case persist => grind [persistStatus, hi.newlyProc]
    all_goals grind
  diskDone := by
    plain_induction h <;> frame_goal <;> try exact hi.diskDone
    case persist => grind [persistStatus, afterCollect, hi.newlyProc, → hi.locDone, → h0.collected]
    all_goals grind [hi.diskDone]

theorem live2_step {s s' : Sys} {op : Op} (hn : NodeInv s) (hi : Live2 s) (h : StepP s op s') : Live2 s' where
  nodeAcct := by
    plain_induction h <;> intro q a y hq <;> proc_cases at hq from hi.nodeAcct <;> frame_goal
    case sbatch => grind [hn.started]
    case startBatch => grind [find?_hid, hn.hidUnique]
    case nodeRow | nodeCancel => grind [hn.hidUnique, hn.ofBatch]
    all_goals grind
  endedRows := by
    plain_induction h <;> frame_goal <;> try exact hi.endedRows
    case nodeEnd => grind [→ hi.nodeAcct, hi.endedRows]
    all_goals grind [hi.endedRows]
  aliveRunning := by
    plain_induction h <;> intro q y hq <;> frame_goal <;> proc_cases at hq <;> try exact hi.aliveRunning _ _ hq
    case nodeEnd => grind [hn.oneRunner, hi.aliveRunning]
    all_goals grind [hi.aliveRunning]
  fileRows := by
    plain_induction h <;> frame_goal <;> try exact hi.fileRows
    case nodeRow | nodeCancel => grind [hn.ofBatch, hi.fileRows]
    all_goals grind [hi.fileRows]

theorem live3_step {s s' : Sys} {op : Op} (hb : BatchInv s) (h0 : Live0 s) (h2 : Live2 s) (hi : Live3 s)
    (h : StepP s op s') : Live3 s' where
  hProc := by
    plain_induction h <;> intro q a y hq <;> frame_goal <;> proc_cases at hq from hi.hProc
    case promoteDone | promote => grind [SubP.load, holds, hi.dProc]
    -- a row arrives while another process holds the role: impossible, the collector holds it
    case collectFile.inr | cancelRow.inr => grind [holds, → hb.role.holder]
    case persist => grind [holds, persistStatus, → hi.pendNs, → hi.newlyNotNs]
    all_goals grind [SubP.load, holds]
  dProc := by
    plain_induction h <;> frame_goal <;> try exact hi.dProc
    case collectFile | cancelRow | persist => grind [holds, → hb.role.holder, → hi.dProc]
    case demote =>
      grind [holds, afterCollect, afterPersist, → hi.hProc, → hi.syncDone, → h0.collected, → h0.persisted,
        → h0.plain, → hi.dProc]
    all_goals grind [→ hi.dProc]
  newlyNotNs := by
    plain_induction h <;> intro q a y hq <;> proc_cases at hq from hi.newlyNotNs <;> frame_goal
    case passEnd => grind [holds, → hi.passNotNs]
    all_goals grind [SubP.load, holds]
  passNotNs := by
    plain_induction h <;> intro q a y hq <;> proc_cases at hq from hi.passNotNs <;> frame_goal
    case collectFile =>
      grind [holds, → h2.fileRows, holder_batch_st hb h0, → h0.noPend, → h0.atLoaded]
    case cancelRow => grind [holds, hi.toCancelDone]
    case persist => grind [holds, afterCollect, → h0.collected]
    all_goals grind [SubP.load, holds]
  pendNs := by
    plain_induction h <;> intro q a y hq <;> proc_cases at hq from hi.pendNs <;> frame_goal
    case passEnd => grind [holds, → h0.noPend, → h0.atLoaded]
    all_goals grind [SubP.load, holds]
  toCancelDone := by
    plain_induction h <;> intro q a y hq <;> proc_cases at hq from hi.toCancelDone <;> frame_goal
    case persist => grind [afterCollect, → h0.collected]
    all_goals grind [SubP.load]
  syncDone := by
    plain_induction h <;> intro q a y hq <;> proc_cases at hq from hi.syncDone <;> frame_goal
    case persist.inr => grind [holds, → hb.role.holder]
    all_goals grind [SubP.load, holds]

theorem live4_step {s s' : Sys} {op : Op} (hc : CapInv s) (hp : ProgA s) (h0 : Live0 s) (h2 : Live2 s)
    (h3 : Live3 s) (hi : Live4 s) (h : StepP s op s') : Live4 s' where
  diskSub := by
    plain_induction h <;> frame_goal <;> try exact hi.diskSub
    case persist =>
      grind [holds, persistStatus, afterCollect, → hi.pendBatch, → hi.hSub, → hi.quiet, → h0.collected,
        → hi.diskSub]
    all_goals grind [→ hi.diskSub]
  hSub := by
    plain_induction h <;> intro q a y hq <;> frame_goal <;> proc_cases at hq <;> try exact hi.hSub _ _ _ hq
    case promoteDone | promote => grind [SubP.load, holds, → hi.diskSub]
    -- a batch the poll drops has ended, so each of its jobs has a row: uncollected, or seen by this round
    case poll =>
      grind [holds, → hp.outIds, ended_of_not_active, → h2.endedRows, → h3.hProc, → hi.hSub]
    case collectFile.inr => grind [holds, → hc.node.batch.role.holder, → hi.hSub]
    case persist => grind [holds, persistStatus, → hi.pendBatch, → hi.hSub]
    all_goals grind [SubP.load, holds, → hi.hSub]
  pendBatch := by
    plain_induction h <;> intro q a y hq <;> proc_cases at hq from hi.pendBatch <;> frame_goal
    case poll => grind [→ h0.atLoaded]
    case sbatch => grind [holds, List.mem_concat_self]
    all_goals grind [SubP.load, holds]
  quiet := by
    plain_induction h <;> intro q a y hq <;> frame_goal <;> proc_cases at hq from hi.quiet
    case collectDone => grind [CollectedAll]
    case sbatch.inr => grind [holds, → hc.node.batch.role.holder]
    -- a runner that still writes rows is alive, so the holder believes its batch active
    case nodeRow | nodeCancel =>
      grind [holds, → h2.aliveRunning, holder_tracked hc h0, → hc.node.ofBatch, bid_unique hc.node.batch.idsNodup]
    all_goals grind [SubP.load]

theorem live5_step {s s' : Sys} {op : Op} (ha : OutcomeA s) (h0 : Live0 s) (hi : Live5 s)
    (h : StepP s op s') : Live5 s' where
  dBlk := by
    plain_induction h <;> frame_goal <;> try exact hi.dBlk
    case persist =>
      grind [holds, persistStatus, afterCollect, → hi.hBlk, → h0.collected, → ha.newlyDisj, → hi.dBlk]
    all_goals grind [→ hi.dBlk]
  hBlk := by
    plain_induction h <;> intro q a y hq <;> proc_cases at hq from hi.hBlk <;> frame_goal
    case promoteDone | promote => grind [SubP.load, holds, → hi.dBlk]
    case persist => grind [holds, persistStatus, → ha.newlyDisj]
    all_goals grind [SubP.load, holds]
  nsBlocked := by
    plain_induction h <;> intro q a y hq <;> proc_cases at hq from hi.nsBlocked <;> frame_goal
    case persist | skipPersist => grind [RoundDone, persistStatus]
    all_goals grind [SubP.load]

theorem liveAll_step {s s' : Sys} {op : Op} (hi : LiveAll s) (h : StepP s op s') : LiveAll s' :=
  have hs := h.step
  have hb := hi.cap.node.batch
  ⟨capInv_step hi.cap hs, progA_step hi.prog hs, outcomeA_step hi.outA hs, gateInv_step hi.gate hs,
    live0_step hi.l0 h, live1_step hi.l0 hi.l1 h, live2_step hi.cap.node hi.l2 h, live3_step hb hi.l0 hi.l2 hi.l3 h,
    live4_step hi.cap hi.prog hi.l0 hi.l2 hi.l3 hi.l4 h, live5_step hi.outA hi.l0 hi.l5 h⟩

theorem liveAll_run {s s' : Sys} (ops : List Op) (hi : LiveAll s) (h : runP s ops = some s') : LiveAll s' :=
  runP_inv liveAll_step ops hi h

theorem isCompleteDecision_iff (n : Nat) (st : Status) :
    isCompleteDecision n st = true ↔ ((∀ j : JobId, j < n → st.st j = .done) ∨ st.ids = []) := by
  simp [isCompleteDecision]

/-- in a fault-free round that ends with an empty HPC queue nothing is SUBMITTED any more -/
theorem persisted_no_sub {s : Sys} (hi : LiveAll s) {q : Pid} {a : Bool} {x : SubP}
    (hq : s.procs q = .sub a x) (hpc : x.pc = .persisted) (hout : x.out = []) (j : JobId) :
    x.loc.st j ≠ .sub := by
  intro hst
  have hh : holds x.pc = true := by rw [hpc]; rfl
  have hnew := (hi.l0.persisted q a x hq (by rw [hpc]; rfl)).1
  have hpass := (hi.l0.collected q a x hq (by rw [hpc]; rfl)).1
  rcases hi.l4.hSub q a x hq hh j hst with h | h | ⟨B, hB, -, k, hk, h | h⟩
  · rw [hnew] at h; cases h
  · rw [hpass] at h; exact (hasJob_nil j).1 h
  · rw [hout] at h; cases h
  · rcases hi.l4.quiet q a x hq (Or.inr (Or.inr hpc)) B hB k hk with h' | h'
    · rw [hout] at h'; cases h'
    · rw [h'] at h; exact (hasJob_nil j).1 h

/-- …and nothing is NOT_SUBMITTED either: every job is DONE in the round's copy -/
theorem persisted_all_done {s : Sys} (hi : LiveAll s) (rank : JobId → Nat) (hac : Acyclic s.sc.graph rank)
    (hmax : 1 ≤ s.sc.maxNodes) {q : Pid} {a : Bool} {x : SubP}
    (hq : s.procs q = .sub a x) (hpc : x.pc = .persisted) (hout : x.out = []) :
    ∀ j : JobId, j < s.sc.n → x.loc.st j = .done := by
  have hh : holds x.pc = true := by rw [hpc]; rfl
  have hcol := hi.l0.collected q a x hq (by rw [hpc]; rfl)
  have key : ∀ (k : Nat) (j : JobId), rank j = k → j < s.sc.n → x.loc.st j = .done := by
    intro k
    induction k using Nat.strongRecOn with
    | _ k ih =>
      intro j hk hj
      cases hst : x.loc.st j with
      | done => rfl
      | sub => exact absurd hst (persisted_no_sub hi hq hpc hout j)
      | ns =>
        exfalso
        have hne := hi.l5.nsBlocked q a x hq hpc hmax hout j hj hst
        obtain ⟨b, hb⟩ := List.exists_mem_of_ne_nil _ hne
        have hbl : b ∈ s.sc.graph.blockers j := hi.outA.subLoc q a x hq j b hb
        have hbn : b < s.sc.n := hac.inside j hj b hbl
        have hlt : rank b < rank j := hac.lt j hj b hbl
        have hbd := ih (rank b) (by omega) b rfl hbn
        rcases hi.l5.hBlk q a x hq hh j hst b hb with h | h | h
        · exact h hbd
        · rw [hcol.2] at h; cases h
        · rw [hcol.1] at h; exact (hasJob_nil b).1 h
  exact fun j hj => key (rank j) j rfl hj

/-- **the decision is sound**: a fault-free round whose `_is_complete` answers True has a row for every job -/
theorem decision_sound {s : Sys} (hi : LiveAll s) (rank : JobId → Nat) (hac : Acyclic s.sc.graph rank)
    (hmax : 1 ≤ s.sc.maxNodes) (q : Pid) (a : Bool) (x : SubP)
    (hq : s.procs q = .sub a x) (hpc : x.pc = .persisted) (hd : isCompleteDecision s.sc.n x.loc = true) :
    ∀ j : JobId, j < s.sc.n → HasJob s.processed j := by
  have hall : ∀ j : JobId, j < s.sc.n → x.loc.st j = .done := by
    rcases (isCompleteDecision_iff _ _).1 hd with h | h
    · exact h
    · rw [hi.prog.persistedIds q a x hq hpc] at h
      exact persisted_all_done hi rank hac hmax hq hpc h
  have hcol := hi.l0.collected q a x hq (by rw [hpc]; rfl)
  intro j hj
  rcases hi.l1.locDone q a x hq j (hall j hj) with h | h
  · exact h
  · rw [hcol.2] at h; cases h

theorem liveF_step {s s' : Sys} {op : Op} (hall : LiveAll s) (rank : JobId → Nat) (hac : Acyclic s.sc.graph rank)
    (hmax : 1 ≤ s.sc.maxNodes) (hi : LiveF s) (h : StepP s op s') : LiveF s' where
  decidedAll := by
    plain_induction h <;> intro q a y hq <;> frame_goal <;> proc_cases at hq from hi.decidedAll
    case unmark => grind [decision_sound hall rank hac hmax]
    all_goals grind [SubP.load]
  completeAll := by
    plain_induction h <;> frame_goal <;> try exact hi.completeAll
    case persist => grind [holds, persistStatus, → hall.gate.flags, → hi.completeAll]
    case flag => grind [→ hi.decidedAll]
    all_goals grind [→ hi.completeAll]

theorem liveF_reach {sc : Scn} {rank : JobId → Nat} (hac : Acyclic sc.graph rank) (hmax : 1 ≤ sc.maxNodes)
    {ops : List Op} {s : Sys} (h : runP (init sc) ops = some s) : LiveF s ∧ s.sc = sc :=
  (runP_inv (P := fun t => LiveAll t ∧ LiveF t ∧ t.sc = sc)
    (fun ⟨ha, hf, hsc⟩ hst =>
      ⟨liveAll_step ha hst, liveF_step ha rank (hsc ▸ hac) (hsc ▸ hmax) hf hst, (sc_step hst.step).trans hsc⟩)
    ops ⟨liveAll_init sc, liveF_init sc, rfl⟩ h).2

/-- **no missing jobs**: in a fault-free run, when the submission is marked complete every configured job
    has a row in the consolidated results file -/
theorem complete_no_missing (sc : Scn) (rank : JobId → Nat) (hac : Acyclic sc.graph rank) (hmax : 1 ≤ sc.maxNodes)
    (ops : List Op) (s : Sys) (h : runP (init sc) ops = some s) (hc : s.disk.complete = true) :
    ∀ j : JobId, j < sc.n → ∃ r ∈ s.processed, r.job = j := by
  obtain ⟨hf, hsc⟩ := liveF_reach hac hmax h
  exact fun j hj => hf.completeAll hc j (hsc ▸ hj)

end Jade.Sys
