import JadeModel.Proofs.ClusterStale

/-!
The role invariant (`RoleInv`, DESIGN 4.3) of the cluster API model and its preservation by every operation that
respects `Protocol`.  The clauses about files and copies are those of `Coherent`, which every such operation preserves;
what is proved here are the clauses about the holders.
-/

namespace Jade.Cluster
open Jade.Gen.Cluster

/-- the inductive invariant behind C10 -/
structure RoleInv (t : Tracked) : Prop where
  /-- at most one holder -/
  one : ∀ a b : Hid, t.holder a = true → t.holder b = true → a = b
  agreeCfg : t.s.disk.cfg.version = t.s.disk.cfgVer
  agreeJs : t.s.disk.js.version = t.s.disk.jsVer
  present : t.s.disk.cfgMissing = false
  /-- no handle is ahead of the disk -/
  le : ∀ (h : Hid) (x : Handle), t.s.handles h = some x → x.cfg.version ≤ t.s.disk.cfgVer
  /-- a handle whose config copy is current knows who the submitter is -/
  cur : ∀ (h : Hid) (x : Handle), t.s.handles h = some x → x.cfg.version = t.s.disk.cfgVer →
    x.cfg.submitter = t.s.disk.cfg.submitter
  /-- … and the value behind its remembered hash is the one on disk, as far as the submitter goes -/
  hash : ∀ (h : Hid) (x : Handle) (c : CfgView), t.s.handles h = some x → x.cfgHash = some (Snap.cfg c) →
    x.cfg.version = t.s.disk.cfgVer → c.submitter = t.s.disk.cfg.submitter
  /-- a holder's copies are current and name its own host -/
  hold : ∀ h : Hid, t.holder h = true → ∃ x : Handle, t.s.handles h = some x ∧ x.cfg.version = t.s.disk.cfgVer ∧
    x.cfg.submitter = some x.host ∧ ∀ j : JsView, x.js = some j → j.version = t.s.disk.jsVer
  /-- the submitter field is set iff somebody holds the role -/
  someIff : t.s.disk.cfg.submitter.isSome = true ↔ ∃ h : Hid, t.holder h = true
  /-- while the role is free, a handle with a current config copy has a current job-status copy -/
  free : t.s.disk.cfg.submitter = none → ∀ (h : Hid) (x : Handle) (j : JsView), t.s.handles h = some x →
    x.cfg.version = t.s.disk.cfgVer → x.js = some j → j.version = t.s.disk.jsVer

theorem RoleInv.marker {t : Tracked} (hI : RoleInv t) (m : Bool) :
    RoleInv { s := { t.s with disk := { t.s.disk with marker := m } }, holder := t.holder } :=
  ⟨hI.one, hI.agreeCfg, hI.agreeJs, hI.present, hI.le, hI.cur, hI.hash, hI.hold, hI.someIff, hI.free⟩

theorem RoleInv.holds {t : Tracked} (hI : RoleInv t) {h : Hid} {x : Handle} (hx : t.s.handles h = some x)
    (hh : t.holder h = true) : x.cfg.version = t.s.disk.cfgVer ∧ x.cfg.submitter = some x.host ∧
      ∀ j : JsView, x.js = some j → j.version = t.s.disk.jsVer := by
  obtain ⟨x', h1, h2⟩ := hI.hold h hh
  rw [hx] at h1; cases h1
  exact h2

theorem RoleInv.replace {t : Tracked} (hI : RoleInv t) (h : Hid) (y : Handle) (m : Bool)
    (hC : Coherent (({ t.s with disk := { t.s.disk with marker := m } }).setHandle h y))
    (hhold : t.holder h = true → y.cfg.version = t.s.disk.cfgVer ∧ y.cfg.submitter = some y.host ∧
      ∀ j : JsView, y.js = some j → j.version = t.s.disk.jsVer)
    (hfree : t.s.disk.cfg.submitter = none → y.cfg.version = t.s.disk.cfgVer →
      ∀ j : JsView, y.js = some j → j.version = t.s.disk.jsVer) :
    RoleInv { s := ({ t.s with disk := { t.s.disk with marker := m } }).setHandle h y, holder := t.holder } := by
  refine ⟨hI.one, hC.agreeCfg, hC.agreeJs, hC.present, hC.le, hC.cur,
    fun q z c hz hc hv => congrArg _ (hC.hash q z c hz hc hv), ?_, hI.someIff, ?_⟩
  · intro q hq
    by_cases e : q = h
    · subst e; exact ⟨y, Sys.setHandle_self .., hhold hq⟩
    · obtain ⟨z, b1, b⟩ := hI.hold q hq
      exact ⟨z, by simp [Sys.setHandle, e, b1], b⟩
  · intro hn q z j hz
    rcases Sys.setHandle_some hz with hz | rfl
    · exact hI.free hn q z j hz
    · exact fun hv => hfree hn hv j

/-- Only slot `h` can hold the role and its handle `y` is current.  It holds the role iff `y` names its own host as
    submitter; when it does not, no other handle is current (the config has just been rewritten). -/
theorem RoleInv.sole {t : Tracked} (hC : Coherent t.s) (h : Hid) (y : Handle) (hy : t.s.handles h = some y)
    (hv : y.cfg.version = t.s.disk.cfgVer) (hj : ∀ j : JsView, y.js = some j → j.version = t.s.disk.jsVer)
    (only : ∀ q : Hid, t.holder q = true → q = h)
    (hsome : t.holder h = true → y.cfg.submitter = some y.host)
    (hnone : t.holder h = false → y.cfg.submitter = none ∧
      ∀ (q : Hid) (z : Handle), t.s.handles q = some z → z.cfg.version = t.s.disk.cfgVer → q = h) :
    RoleInv t := by
  have hsub := hC.cur h y hy hv
  refine ⟨fun a b ha hb => (only a ha).trans (only b hb).symm, hC.agreeCfg, hC.agreeJs, hC.present, hC.le, hC.cur,
    fun q z c hz hc hv => congrArg _ (hC.hash q z c hz hc hv), ?_, ?_, ?_⟩
  · intro q hq
    obtain rfl := only q hq
    exact ⟨y, hy, hv, hsome hq, hj⟩
  · rw [← hsub]
    constructor
    · intro hs
      cases hh : t.holder h with
      | true => exact ⟨h, hh⟩
      | false => rw [(hnone hh).1] at hs; cases hs
    · rintro ⟨q, hq⟩
      obtain rfl := only q hq
      rw [hsome hq]; rfl
  · intro hn q z j hz hzv hzj
    rw [← hsub] at hn
    have hh : t.holder h = false := by
      cases hh : t.holder h with
      | false => rfl
      | true => rw [hsome hh] at hn; cases hn
    obtain rfl := (hnone hh).2 q z hz hzv
    rw [hy] at hz; cases hz
    exact hj j hzj

theorem RoleInv.generic {t : Tracked} (hI : RoleInv t) (h : Hid) (x : Handle) (o : Out) (m : Bool)
    (hx : t.s.handles h = some x) (he : EffS t.s.disk x x o) (hw : t.holder h = true ∨ o.1 = t.s.disk)
    (hC : Coherent (({ t.s with disk := { o.1 with marker := m } }).setHandle h o.2.1)) :
    RoleInv { s := ({ t.s with disk := { o.1 with marker := m } }).setHandle h o.2.1, holder := t.holder } := by
  obtain ⟨he, hk⟩ := he
  obtain ⟨hhost, _, hcfg, hjs⟩ := he
  -- current copies stay current
  have hv : x.cfg.version = t.s.disk.cfgVer → o.2.1.cfg.version = o.1.cfgVer := by
    intro c1
    rcases hcfg with ⟨_, a2, _, a4, _⟩ | ⟨_, a2, _, _, a5, _⟩
    · rw [a4, a2]; exact c1
    · rw [a5, a2]
  have hj : (∀ j : JsView, x.js = some j → j.version = t.s.disk.jsVer) →
      ∀ j : JsView, o.2.1.js = some j → j.version = o.1.jsVer := by
    intro c3 j' hj'
    rcases hjs with ⟨_, a2, a3⟩ | ⟨_, _, _, a3, a4, a5⟩
    · rw [a2]
      rcases a3 j' hj' with ⟨j, b1, b2⟩ | rfl
      · rw [b2]; exact c3 j b1
      · exact hI.agreeJs
    · rw [a4] at hj'; cases hj'; rw [a5, a3]
  have hs : x.cfg.submitter = some x.host → o.2.1.cfg.submitter = some o.2.1.host := by
    rw [hk, hhost]; exact id
  rcases hw with hh | hw
  · obtain ⟨c1, c2, c3⟩ := hI.holds hx hh
    exact .sole hC h o.2.1 (Sys.setHandle_self ..) (hv c1) (hj c3) (fun q hq => hI.one q h hq hh) (fun _ => hs c2)
      (fun hf => by rw [hh] at hf; cases hf)
  · obtain ⟨d, y, r⟩ := o
    simp only at hw; subst hw
    refine hI.replace h y m hC (fun hh => ?_) (fun hn hyv => hj fun j => hI.free hn h x j hx ?_)
    · obtain ⟨c1, c2, c3⟩ := hI.holds hx hh
      exact ⟨hv c1, hs c2, hj c3⟩
    · rcases hcfg with ⟨_, _, _, a4, _⟩ | ⟨_, a2, _⟩
      · exact a4 ▸ hyv
      · exact absurd a2 (Nat.ne_of_lt (Nat.lt_succ_self _))

/-! ### one step -/

/-- a locked method that keeps the in-memory submitter; it writes only when invoked by a holder -/
theorem RoleInv.lockedKeep {t : Tracked} (hI : RoleInv t) (h : Hid) (f : Disk → Handle → Out)
    (hE : ∀ (d : Disk) (x : Handle), EffS d x x (f d x))
    (hw : t.holder h = true ∨ ∀ (d : Disk) (x : Handle), (f d x).1 = d) (hC : Coherent (locked t.s h f).1) :
    RoleInv { s := (locked t.s h f).1, holder := t.holder } := by
  rcases locked_cases t.s h f with ⟨_, h2⟩ | ⟨x, _, _, h2⟩ | ⟨x, hx, _, h2⟩ <;> rw [h2] at hC ⊢
  · exact hI
  · exact hI
  · exact hI.generic h x _ _ hx (hE _ _) (hw.imp_right (· _ _)) hC

/-- a successful promotion: the role was free, slot `h` now holds it -/
theorem RoleInv.promoteWrite {t : Tracked} (hI : RoleInv t) (h : Hid) (y : Handle) (d' : Disk)
    (hnone : t.s.disk.cfg.submitter = none) (hC : Coherent (({ t.s with disk := d' }).setHandle h y))
    (y1 : y.cfg.version = d'.cfgVer) (y2 : y.cfg.submitter = some y.host)
    (y3 : ∀ j : JsView, y.js = some j → j.version = d'.jsVer) :
    RoleInv { s := ({ t.s with disk := d' }).setHandle h y, holder := fun q => if q = h then true else t.holder q } := by
  refine .sole hC h y (Sys.setHandle_self ..) y1 y3 (fun q hq => ?_) (fun _ => y2) (fun hf => by simp at hf)
  by_cases e : q = h
  · exact e
  · have := hI.someIff.2 ⟨q, by simpa [e] using hq⟩
    rw [hnone] at this; cases this

/-- a successful demotion by the holder in slot `h`: the config is rewritten, so no other handle is current -/
theorem RoleInv.demoteWrite {t : Tracked} (hI : RoleInv t) (h : Hid) (y : Handle) (d' : Disk) (hh : t.holder h = true)
    (hC : Coherent (({ t.s with disk := d' }).setHandle h y)) (hd : t.s.disk.cfgVer < d'.cfgVer)
    (y1 : y.cfg.version = d'.cfgVer) (y2 : y.cfg.submitter = none)
    (y3 : ∀ j : JsView, y.js = some j → j.version = d'.jsVer) :
    RoleInv { s := ({ t.s with disk := d' }).setHandle h y, holder := fun q => if q = h then false else t.holder q } := by
  refine .sole hC h y (Sys.setHandle_self ..) y1 y3 (fun q hq => ?_) (fun hf => by simp at hf)
    (fun _ => ⟨y2, fun q z hz hzv => ?_⟩)
  · by_cases e : q = h
    · exact e
    · exact hI.one q h (by simpa [e] using hq) hh
  · by_cases e : q = h
    · exact e
    · have := hI.le q z (by simpa [Sys.setHandle, e] using hz)
      change z.cfg.version = d'.cfgVer at hzv
      omega

theorem RoleInv.promoteStep {t : Tracked} (hI : RoleInv t) (h : Hid) (hC : Coherent (step t.s (.promote h)).1) :
    RoleInv (t.step (.promote h)) := by
  unfold Tracked.step
  simp only [Jade.Cluster.step] at hC ⊢
  rcases locked_cases t.s h doPromote with ⟨_, h2⟩ | ⟨x, _, _, h2⟩ | ⟨x, hx, _, h2⟩ <;> rw [h2] at hC ⊢
  · exact hI
  · exact hI
  · rcases doPromote_cases t.s.disk x with ⟨_, c2⟩ | ⟨_, c2, c3⟩ | ⟨c1, c2, c3, _⟩ | ⟨c1, c2, _, c4⟩
    · rw [c2] at hC ⊢
      exact hI.replace h x _ hC (hI.holds hx) (fun hn hv j => hI.free hn h x j hx hv)
    · rw [c3] at hC ⊢
      exact hI.replace h (promoted x) _ hC (fun hh => absurd (hI.holds hx hh).1 c2) (fun _ hv => absurd hv c2)
    · -- the remembered hash is that of a config naming a submitter, the current config names none
      have := hI.hash h x _ hx c3 c2
      rw [← hI.cur h x hx c2, c1] at this
      cases this
    · rw [c4] at hC ⊢
      have hnone : t.s.disk.cfg.submitter = none := by rw [← hI.cur h x hx c2]; exact c1
      exact hI.promoteWrite h _ _ hnone hC rfl rfl (fun j hj => hI.free hnone h x j hx c2 hj)

theorem RoleInv.demoteStep {t : Tracked} (hI : RoleInv t) (h : Hid) (hh : t.holder h = true)
    (hC : Coherent (step t.s (.demote h)).1) : RoleInv (t.step (.demote h)) := by
  unfold Tracked.step
  simp only [Jade.Cluster.step] at hC ⊢
  rcases locked_cases t.s h doDemote with ⟨_, h2⟩ | ⟨x, _, _, h2⟩ | ⟨x, hx, _, h2⟩ <;> rw [h2] at hC ⊢
  · exact hI
  · exact hI
  · obtain ⟨b2, b3, b4⟩ := hI.holds hx hh
    rcases doDemote_cases t.s.disk x with ⟨c1, _⟩ | ⟨_, c2, _⟩ | ⟨c1, c2, c3, _⟩ | ⟨_, c2, _, c4⟩
    · exact absurd b3 c1
    · exact absurd b2 c2
    · have := hI.hash h x _ hx c3 c2
      rw [← hI.cur h x hx c2, c1] at this
      cases this
    · rw [c4] at hC ⊢
      exact hI.demoteWrite h _ _ hh hC (by simp [c2]) rfl rfl b4

/-- `load` into a slot that does not hold the role -/
theorem RoleInv.loadStep {t : Tracked} (hI : RoleInv t) (h : Hid) (host : Host) (p j : Bool)
    (hnh : t.holder h = false) (hC : Coherent (step t.s (.load h host p j)).1) : RoleInv (t.step (.load h host p j)) := by
  unfold Tracked.step
  simp only [Jade.Cluster.step, loadOp] at hC ⊢
  cases hm : t.s.disk.marker with
  | true => simp only [if_true]; exact hI
  | false =>
    simp only [hm, Bool.false_eq_true, if_false] at hC ⊢
    have hjs : ∀ (d : Disk) (x : Handle), x.js = none → d.js.version = d.jsVer →
        ∀ j' : JsView, (withJobs j d x).js = some j' → j'.version = d.jsVer := by
      intro d x hx hd j' hj'
      cases j
      · rw [show (withJobs false d x).js = x.js from rfl, hx] at hj'; cases hj'
      · cases hj'; exact hd
    rcases doLoad_cases host p j t.s.disk hI.present hI.agreeCfg with ⟨_, hr⟩ | ⟨_, hnone, hr⟩ <;> rw [hr] at hC ⊢
    · exact hI.replace h _ _ hC (fun hh => by rw [hnh] at hh; cases hh) (fun _ _ => hjs _ _ rfl hI.agreeJs)
    · exact hI.promoteWrite h _ _ hnone hC (by cases j <;> rfl) (by cases j <;> rfl) (hjs _ _ rfl hI.agreeJs)

theorem Protocol.not_tamper {t : Tracked} {op : Op} (hp : Protocol t op = true) : op.isTamper = false := by
  cases op <;> first | rfl | cases hp

theorem RoleInv.step {t : Tracked} (hI : RoleInv t) (hC : Coherent t.s) (op : Op) (hp : Protocol t op = true) :
    RoleInv (t.step op) := by
  have hC' := hC.step op (Protocol.not_tamper hp)
  have hm : ∀ (h : Hid) (j : JobId) (f : JobView → JobView), Coherent (memJob t.s h j f).1 →
      RoleInv { s := (memJob t.s h j f).1, holder := t.holder } := by
    intro h j f hC'
    rcases memJob_cases t.s h j f with e | ⟨x, y, hx, he, e⟩ <;> rw [e] at hC' ⊢
    · exact hI
    · exact hI.generic h x (t.s.disk, y, .ok) t.s.disk.marker hx he (.inr rfl) hC'
  cases op with
  | load h host p j => exact hI.loadStep h host p j (by simpa [Protocol] using hp) hC'
  | promote h => exact hI.promoteStep h hC'
  | demote h => exact hI.demoteStep h (by simpa [Protocol] using hp) hC'
  | update h a => exact hI.lockedKeep h _ (doUpdate_eff a) (.inl hp) hC'
  | markComplete h => exact hI.lockedKeep h _ doMarkComplete_eff (.inl hp) hC'
  | markCanceled h => exact hI.lockedKeep h _ doMarkCanceled_eff (.inl hp) hC'
  | completeHpcId h id => exact hI.lockedKeep h _ (doCompleteHpcId_eff id) (.inl hp) hC'
  | deserializeJobs h => exact hI.lockedKeep h _ doDeserializeJobs_eff (.inr fun _ _ => rfl) hC'
  | allComplete h =>
    exact hI.lockedKeep h _ doAllComplete_eff (.inr fun d x => by unfold doAllComplete; split <;> rfl) hC'
  | prepareResubmit h sel bl =>
    have hh : t.holder h = true := hp
    unfold Tracked.step
    by_cases hl : resubmitLocked = true <;> simp only [Jade.Cluster.step, hl, if_true] at hC' ⊢
    · exact hI.lockedKeep h _ (doPrepareResubmit_eff sel bl) (.inl hh) hC'
    · rcases unlocked_cases t.s h (doPrepareResubmit sel bl) with ⟨_, h2⟩ | ⟨x, hx, h2⟩ <;> rw [h2] at hC' ⊢
      · exact hI
      · exact hI.generic h x _ (doPrepareResubmit sel bl t.s.disk x).1.marker hx (doPrepareResubmit_eff sel bl _ x)
          (.inl hh) hC'
  | read =>
    obtain ⟨m, hm⟩ := step_read t.s
    unfold Tracked.step
    rw [hm]
    exact hI.marker m
  | breakMarker =>
    unfold Tracked.step
    simp only [Jade.Cluster.step]
    split
    · exact hI.marker false
    · exact hI
  | forgeCfgVer n => cases hp
  | forgeJsVer n => cases hp
  | rmCfg => cases hp
  | memCancel h j => exact hm h j _ hC'
  | memUnblock h j done => exact hm h j _ hC'

/-! ### `Cluster.create` and whole runs -/

theorem RoleInv.create (host : Host) (spec : List (List JobId × Bool)) (brk : Bool) :
    RoleInv (Tracked.create host spec brk) := by
  have hC := Coherent.create host spec brk
  unfold Tracked.create
  rw [create_eq] at hC ⊢
  exact .sole hC 0 { host := host, cfg := createCfg host spec.length, js := some (createJs spec), cfgHash := _, jsHash := _ }
    rfl rfl (fun j hj => by cases hj; rfl) (fun q hq => by simpa using hq) (fun _ => rfl)
    (fun hf => by simp at hf)

theorem RoleInv.exec : ∀ (ops : List Op) (t : Tracked), RoleInv t → Coherent t.s → ProtocolRun t ops = true →
    RoleInv (t.exec ops) ∧ Coherent (t.exec ops).s
  | [], _, hI, hC, _ => ⟨hI, hC⟩
  | op :: ops, t, hI, hC, hp => by
    simp only [ProtocolRun, Bool.and_eq_true] at hp
    exact RoleInv.exec ops (t.step op) (hI.step hC op hp.1) (hC.step op (Protocol.not_tamper hp.1)) hp.2

theorem ProtocolRun_append (t : Tracked) (pre post : List Op) :
    ProtocolRun t (pre ++ post) = true → ProtocolRun t pre = true := by
  induction pre generalizing t with
  | nil => intro _; rfl
  | cons op ops ih =>
    intro h
    simp only [List.cons_append, ProtocolRun, Bool.and_eq_true] at h ⊢
    exact ⟨h.1, ih _ h.2⟩

theorem roleInv_of_run (host : Host) (spec : List (List JobId × Bool)) (brk : Bool) (pre post : List Op)
    (hp : ProtocolRun (Tracked.create host spec brk) (pre ++ post) = true) :
    RoleInv ((Tracked.create host spec brk).exec pre) :=
  (RoleInv.exec pre _ (RoleInv.create host spec brk) (Coherent.create host spec brk)
    (ProtocolRun_append _ pre post hp)).1

theorem mutex_of_roleInv {t : Tracked} (hI : RoleInv t) :
    (∀ a b : Hid, t.holder a = true → t.holder b = true → a = b) ∧
    (t.s.disk.cfg.submitter.isSome = true ↔ ∃ h : Hid, t.holder h = true) ∧
    (∀ h : Hid, t.holder h = true →
      ∃ x : Handle, t.s.handles h = some x ∧ t.s.disk.cfg.submitter = some x.host) := by
  refine ⟨hI.one, hI.someIff, fun h hh => ?_⟩
  obtain ⟨x, b1, b2, b3, _⟩ := hI.hold h hh
  exact ⟨x, b1, by rw [← hI.cur h x b1 b2]; exact b3⟩


theorem never_stale_of_roleInv {t : Tracked} (hI : RoleInv t) (h : Hid) (hh : t.holder h = true) :
    (∃ x : Handle, t.s.handles h = some x ∧ x.cfg.version = t.s.disk.cfgVer ∧
      ∀ j : JsView, x.js = some j → j.version = t.s.disk.jsVer) ∧
    (∀ op : Op, (op = .demote h ∨ (∃ a, op = .update h a) ∨ op = .markComplete h ∨ op = .markCanceled h ∨
          (∃ id, op = .completeHpcId h id) ∨ (∃ sel bl, op = .prepareResubmit h sel bl)) →
      (step t.s op).2 ≠ .err .versionMismatch) := by
  obtain ⟨x, b1, b2, _, b4⟩ := hI.hold h hh
  refine ⟨⟨x, b1, b2, b4⟩, ?_⟩
  have hl : ∀ f : Disk → Handle → Out, (f t.s.disk x).2.2 ≠ .err .versionMismatch →
      (locked t.s h f).2 ≠ .err .versionMismatch := by
    intro f hf
    rcases locked_cases t.s h f with ⟨_, h2⟩ | ⟨_, _, _, h2⟩ | ⟨y, hy, _, h2⟩ <;> rw [h2]
    · simp
    · simp
    · rw [b1] at hy; cases hy; exact hf
  rintro op (rfl | ⟨a, rfl⟩ | rfl | rfl | ⟨id, rfl⟩ | ⟨sel, bl, rfl⟩)
  · exact hl _ (doDemote_notStale _ _ b2)
  · exact hl _ (doUpdate_notStale a _ _ b2 b4)
  · exact hl _ (doMarkComplete_notStale _ _ b2)
  · exact hl _ (doMarkCanceled_notStale _ _ b2)
  · exact hl _ (doCompleteHpcId_notStale id _ _ b4)
  · simp only [step]
    split
    · exact hl _ (doPrepareResubmit_notStale sel bl _ _ b2 b4)
    · rw [unlocked_run t.s h _ x b1]
      exact doPrepareResubmit_notStale sel bl _ _ b2 b4

end Jade.Cluster
