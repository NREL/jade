import JadeModel.Proofs.SystemRowsDefs

/-! `BlockInv` (C02: a blocker leaves a remaining-blocker set only when it has a row) is preserved by every accepted event. -/

namespace Jade.Sys

/- `HasRow s'` enters only through its monotonicity `hmono` and the rows the event adds (`hnew`), so it is made a
   variable `R` before the case analysis: the goals stay small, and for a process the event does not touch the
   clause for `s` with `hmono` closes the goal whatever the event did to the files. -/
theorem blockInv_step {s s' : Sys} {op : Op} (hi : BlockInv s) (h : Step s op s') : BlockInv s' := by
  have hmono := hasRow_step h
  have hnew := newRow_step h
  refine ⟨?disk, ?loc, ?seen, ?batches, ?node, rfl⟩ <;> generalize HasRow s' = R at hmono hnew ⊢
  case disk =>
    induction h <;> first | exact fun j hj b hb => (hi.disk j hj b hb).imp_right (hmono b) |
      (frame_goal; grind [hi.disk, → hi.loc, holds, persistStatus])
  case loc =>
    induction h <;> intro q a y hq <;> proc_cases at hq <;>
      first | exact fun hh j hj b hb => (hi.loc _ _ _ hq hh j hj b hb).imp_right (hmono b) |
        (frame_goal; grind [→ hi.loc, hi.disk, → hi.seen, holds, SubP.load, persistStatus])
  case seen =>
    induction h <;> intro q a y hq <;> proc_cases at hq <;>
      first | exact fun hh => ⟨fun r hr => hmono _ ((hi.seen _ _ _ hq hh).1 r hr),
                              fun b hb => hmono _ ((hi.seen _ _ _ hq hh).2 b hb)⟩ |
        (simp only [newRowFact] at hnew; grind [→ hi.seen, holds, SubP.load])
  case batches =>
    have hb := hi.batches
    induction h with
    | @sbatch p x _ _ hp hg | @sbatchFailed p x _ hp hg =>
      intro B hB j hj b hbl
      frame_simp at hB
      rcases List.mem_append.1 hB with hB | hB
      · exact (hb B hB j hj b hbl).imp_right (hmono b)
      · cases List.mem_singleton.1 hB
        exact (hi.loc p true x hp (by rw [hg.1]; rfl) j (hg.2.2.2.2.2 j hj).1 b hbl).imp_right (hmono b)
    | _ => exact fun B hB j hj b hbl => (hb B hB j hj b hbl).imp_right (hmono b)
  case node =>
    induction h <;> intro q a n hq
    case startBatch hp hs hb =>
      have := hi.batches _ (find?_hid hb).1; proc_cases at hq <;> (frame_goal; grind [→ hi.node])
    all_goals proc_cases at hq <;> first | exact fun j hj b hb => (hi.node _ _ _ hq j hj b hb).imp_right (hmono b) |
      (simp only [newRowFact] at hnew; frame_goal; grind [→ hi.node])

theorem blockInv_run {s s' : Sys} (ops : List Op) (hi : BlockInv s) (h : run s ops = some s') : BlockInv s' :=
  run_inv blockInv_step ops hi h

end Jade.Sys
