import JadeModel.Proofs.System
import JadeModel.Proofs.SystemNodeDefs

/-! `NodeInv` (C01 on the nodes: every start belongs to one batch and happens once) is preserved by every accepted event. -/

namespace Jade.Sys

theorem nodeInv_step {s s' : Sys} {op : Op} (hi : NodeInv s) (h : Step s op s') : NodeInv s' where
  batch := batchInv_step hi.batch h
  ofBatch := by
    induction h <;> intro p0 a0 n0 hq <;> proc_cases at hq from hi.ofBatch <;> (frame_goal; grind [→ hi.ofBatch, find?_hid])
  queuedFresh := by
    induction h <;> intro p0 a0 n0 hq
    case startBatch | nodeStart =>
      have := hi.startsIn
      have hu := @queued_unique s hi
      have hm := @mem_unique_batch s.batches hi.batch.jobsNodup
      frame_simp at hq; grind [→ hi.queuedFresh, find?_hid]
    all_goals proc_cases at hq from hi.queuedFresh <;> (frame_goal; grind [→ hi.queuedFresh])
  oneRunner := by
    induction h <;> intro p1 p2 a1 a2 n1 n2 hq1 hq2 <;> proc_cases at hq1 <;> proc_cases at hq2 <;>
      first | exact hi.oneRunner _ _ _ _ _ _ hq1 hq2 | grind [→ hi.oneRunner, → hi.started]
  started := by
    induction h <;> intro p0 a0 n0 hq <;> proc_cases at hq from hi.started <;> (frame_goal; grind [→ hi.started])
  hidUnique := by
    have := hi.hidUnique; have := hi.hidKnown
    induction h <;> first | assumption | (frame_goal; grind)
  hidKnown := by
    induction h <;> first | exact hi.hidKnown | (frame_goal; grind [hi.hidKnown])
  startsIn := by
    have := hi.startsIn
    induction h <;> first | assumption | (frame_goal; grind [→ hi.ofBatch, → hi.started])
  startsNodup := by
    induction h <;> first | exact hi.startsNodup |
      (frame_goal; grind [hi.startsNodup, → hi.queuedFresh, List.nodup_append])

/-- every reachable state of every scenario, under every schedule, crash and failure -/
theorem nodeInv_reach (sc : Scn) (ops : List Op) (s : Sys) (h : run (init sc) ops = some s) : NodeInv s :=
  run_inv nodeInv_step ops (nodeInv_init sc) h

end Jade.Sys
