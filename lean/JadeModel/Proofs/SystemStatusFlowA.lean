import JadeModel.Proofs.SystemStatusFlowB

/-! Fault-free histories (C09): completion tokens are unique (`FlowA`) — preservation by every fault-free event. -/

namespace Jade.Sys

theorem flowA_step {s s' : Sys} {op : Op} (hn : NodeInv s) (hl : LocInv s) (ha : FlowA s) (hb : FlowB s)
    (hop : op.isFault = false) (h : Step s op s') : FlowA s' where
  fileNd := by
    have := ha.fileNd
    induction h <;> (try cases hop) <;> frame_goal
    case nodeRow p n j hp hg | nodeCancel p n j hp hg =>
      have := ha.nodeFresh _ _ _ hp j (by simp [hg])
      grind [nodup_map_snoc, noRow_iff]
    all_goals first | assumption | grind
  fileProc := by
    have := ha.fileProc; have := ha.fileFile
    induction h <;> (try cases hop) <;> frame_goal
    case cancelRow p x j rest hp ht hg => have := ha.cancelFresh p true x hp j (by simp [ht]); grind [noRow_iff]
    case nodeRow p n j hp hg | nodeCancel p n j hp hg => have := ha.nodeFresh _ _ _ hp j (by simp [hg]); grind [noRow_iff]
    all_goals first | assumption | grind
  fileFile := by
    have := ha.fileFile
    induction h <;> (try cases hop) <;> frame_goal
    case nodeRow p n j hp hg | nodeCancel p n j hp hg => have := ha.nodeFresh _ _ _ hp j (by simp [hg]); grind [noRow_iff]
    all_goals first | assumption | grind
  nodeFresh := nodeNoRow_step hn ha.nodeFresh (fun p a n hp j hj hr => ha.nodeDisj p a n hp j hr hj) ha.pendingFresh
    (fun q x j rest hq _ ht => not_on_node hn (toCancel_not_batched hn.batch.role hb q true x hq j (by simp [ht]))) h
  nodeDisj p a n hp j hr hj :=
    queuedRunning_step (fun p a n hp j hj hr => ha.nodeDisj p a n hp j hr hj) h p a n hp j hj hr
  cancelFresh q a y hq j hj :=
    -- pending cancel decisions are the role holder's (`pcToCancel` after the event)
    cancelNoRow_step hn (fun q a y hq _ => ha.cancelFresh q a y hq) (fun q a y hq _ => ha.toCancelNd q a y hq)
      (fun p x hp hh j => noRow_of_loc_ns hn.batch.role hl hb hp hh) hb.pendMarked
      (fun q a y hq _ => toCancel_not_batched hn.batch.role hb q a y hq) (risky_of_isFault hop) h q a y hq
      (by rw [(flowB_step hn ha hb hop h).pcToCancel q a y hq j hj]; rfl) j hj
  toCancelNd := by
    induction h <;> (try cases hop) <;> intro q a y hq <;> frame_simp at hq
    all_goals proc_cases at hq from ha.toCancelNd <;> grind [SubP.load]
  pendingFresh := pendingNoRow_step hn ha.pendingFresh
    (fun p x hp hpc j => noRow_of_loc_ns hn.batch.role hl hb hp (by rw [hpc]; rfl))
    (fun q x j rest hq _ ht => toCancel_not_batched hn.batch.role hb q true x hq j (by simp [ht])) h
  passProc := by
    induction h <;> (try cases hop) <;> intro q a y hq <;> frame_simp at hq
    all_goals proc_cases at hq from ha.passProc <;> grind [SubP.load]
  passNd := by
    induction h <;> (try cases hop) <;> intro q a y hq <;> frame_simp at hq
    case collectFile p x b hp hg =>
      have := nodup_map_append (ha.passNd p true x hp) (ha.fileNd b)
        fun r hr r' hr' => (ha.fileProc b r' hr' r (ha.passProc p true x hp r hr)).symm
      proc_cases at hq from ha.passNd <;> grind
    case cancelRow p x j rest hp ht hg =>
      have := nodup_map_snoc (r := ⟨j, 1, true⟩) (ha.passNd p true x hp)
        fun r hr => ((noRow_iff s j).1 (ha.cancelFresh p true x hp j (by simp [ht]))).1 r (ha.passProc p true x hp r hr)
      proc_cases at hq from ha.passNd <;> grind
    all_goals proc_cases at hq from ha.passNd <;> grind [SubP.load]
  newlyProc := by
    induction h <;> (try cases hop) <;> intro q a y hq <;> frame_simp at hq
    case passEnd hp hg => have := ha.passProc _ _ _ hp; proc_cases at hq from ha.newlyProc <;> grind
    all_goals proc_cases at hq from ha.newlyProc <;> grind [SubP.load]
  newlyNd := by
    induction h <;> (try cases hop) <;> intro q a y hq <;> frame_simp at hq
    case passEnd p x ks hp hg =>
      have := nodup_append_filter x.newly _ (ha.newlyNd p true x hp) (ha.passNd p true x hp)
      proc_cases at hq from ha.newlyNd <;> grind
    all_goals proc_cases at hq from ha.newlyNd <;> grind [SubP.load]
  doneProc := by
    have := ha.doneProc
    induction h
    case persist p x hp hg =>
      -- done in the writer's copy: done on disk, or canceled in this round and then already in `newly`
      have := hb.locEq p true x hp (by rw [hg]; rfl); have := hb.cancelsWhere p true x hp
      have := hb.pcPass p true x hp; have := hb.pcToCancel p true x hp; have := ha.newlyProc p true x hp
      intro j
      frame_goal
      grind [persistStatus]
    all_goals (try cases hop) <;> frame_goal <;> first | assumption | grind
  jobsLt := by
    have := ha.jobsLt
    induction h <;> (try cases hop) <;> frame_goal <;> first | assumption | grind
  rowLt := by
    have hinv := hasRow_inv h
    have hc := ha.rowLt
    simp only [HasRow] at hinv hc ⊢
    induction h <;> (try cases hop) <;> simp only [rowOf] at hinv <;> frame_simp at hinv
    case cancelRow p x j rest hp ht hg =>
      have := hb.cancelsSt p true x hp j (hb.toCancelSub p true x hp j (by simp [ht]))
      grind
    case nodeRow p n j hp hg | nodeCancel p n j hp hg => have := (node_job_st (j := j) hn ha hb hp (by simp [hg])).2; grind
    all_goals first | exact hc | grind

end Jade.Sys
