import JadeModel.Model.ResultsFault
import JadeModel.Proofs.Results

/-!
Helper lemmas for `Props/C08Faults.lean`: every step of the fault model is made of transitions of
`Step … True` (`stepX_inv`), the invariant `Safe` of the row-level model that survives injected failures,
kills and the breaking of stale markers (at-least-once: every written row is in a file; a node file is
removed only when its rows are in the consolidated file), and the fact that a history without fault
operations runs the base model.
-/

namespace Jade.Results
open Jade.Gen.Results

section Faults
variable {ρ : Type} {L : ρ → Prop} {faulty : Prop}

abbrev AXState (ρ : Type) := XState ρ (List ρ)

/-- what the proofs use of `absOpsX.opened`: opening for append keeps the rows -/
theorem opened_rows (f : Option (List ρ)) : (absOpsX ρ).opened f = f.getD [] := by
  simp [absOpsX, flags_eq]

theorem absOpsX_toFileOps : (absOpsX ρ).toFileOps = absOps ρ := rfl

theorem lockFailRead_eq {φ : Type} (x : XState ρ φ) (p : Pid) :
    lockFailRead x p =
      match x.base.coll p with
      | .collecting (b :: _) _ =>
        if x.base.nodeLock b = none then
          { x.disarm p with base := raiseOut (x.base.setNodeLock b (some p)) p b }
        else x
      | _ => x := by
  unfold lockFailRead
  simp only [moveOrder_eq]
  split <;> simp_all [lockFree, flags_eq]

/-- A property of the base state that implies `PcOk` and is kept by every transition is kept by every
    step of the fault model: a step runs the base operation, or raises out of the collection, or (a failed
    write) leaves the consolidated file opened and then raises, or dies right after one of the two. -/
theorem stepX_inv {P : AState ρ → Prop} (hpc : ∀ s, P s → PcOk s) (hP : ∀ s s', P s → Step L True s s' → P s')
    (x : AXState ρ) (h : P x.base) (op : OpX ρ) (hop : ∀ o, op = .base o → o.rowsIn L) :
    P (stepX (absOpsX ρ) x op).base := by
  cases op with
  | arm p a =>
    simp only [stepX]
    split <;> exact h
  | kill p => exact h
  | breakLocks => exact hP _ _ h (.breakLocks trivial x.dead)
  | base o =>
    have hplain : P (step (absOps ρ) x.base o) := by
      rcases step_sound (hpc _ h) o (hop o rfl) with e | t
      · rw [e]
        exact h
      · exact hP _ _ h t
    show P (stepBase (absOpsX ρ) x o).base
    unfold stepBase
    split
    · exact hplain
    · next p _ =>
      split
      · exact h
      · split
        · rw [lockFailRead_eq]
          split
          · next b rest acc hc =>
            split
            · next hl =>
              rw [show ({ x.disarm p with base := _ } : AXState ρ).base = _ from rfl, raiseOut_setNodeLock]
              exact hP _ _ h (.raiseOut (.inl ⟨rest, acc, hc, hl⟩) (.inl trivial))
            · exact h
          · exact h
        · next a _ _ =>
          cases hm : moveArmed (absOpsX ρ) x p a with
          | none => exact hplain
          | some y =>
            have hopen : P { x.base with cons := some ((absOpsX ρ).opened x.base.cons) } := by
              rw [opened_rows]
              exact hP _ _ h (.opened trivial)
            have hraise : ∀ {s : AState ρ} {b rest acc buf pc}, P s → s.coll p = .moving b rest acc buf pc →
                P (raiseOut s p b) :=
              fun hs hc => hP _ _ hs (.raiseOut (.inr ⟨_, _, _, _, hc⟩) (.inl trivial))
            unfold moveArmed at hm
            dsimp only at hm
            split at hm
            · next hc _ =>
              cases hm
              exact hraise h hc
            · next hc _ =>
              cases hm
              exact hraise hopen hc
            · cases hm
              exact hopen
            · next hc _ =>
              cases hm
              exact hraise h hc
            · next b rest acc buf pc hc _ =>
              split at hm
              · cases hm
              · next f hf =>
                cases hm
                obtain rfl : pc = [] := by simpa using hpc _ h _ _ _ _ _ _ hc
                exact hP _ _ h (.dieRemoved trivial hc hf)
            · cases hm
        · exact hplain

theorem runX_inv {P : AState ρ → Prop} (hpc : ∀ s, P s → PcOk s) (hP : ∀ s s', P s → Step L True s s' → P s')
    {x : AXState ρ} (h : P x.base) (ops : List (OpX ρ)) (hops : ∀ o, .base o ∈ ops → o.rowsIn L) :
    P (runX (absOpsX ρ) x ops).base :=
  List.foldlRecOn (motive := fun x => P x.base) ops _ h fun x h op hop =>
    stepX_inv hpc hP x h op fun o e => hops o (e ▸ hop)

/-- in which state a collector inside `_move_results` of batch `b` can be: it holds the node lock, and
    before the copy / between copy and removal the node file is what it read; after the copy the
    rows it read are in the consolidated file; `[]` (removed too) only for a process that died right after
    the removal -/
def MovingOk (s : AState ρ) (p : Pid) (b : BatchId) (buf : List ρ) (pc : List MoveAct) : Prop :=
  s.nodeLock b = some p ∧
    ((pc = [.append, .remove] ∧ s.node b = some buf) ∨
     (pc = [.remove] ∧ s.node b = some buf ∧ ∀ r ∈ buf, r ∈ consRows s) ∨
     (pc = [] ∧ ∀ r ∈ buf, r ∈ consRows s))

structure Safe (s : AState ρ) : Prop extends Dirs s where
  excl : Excl s
  kept : ∀ r ∈ writtenRows s ++ canceledRows s,
      r ∈ consRows s ∨ ∃ (b : BatchId) (f : List ρ), s.node b = some f ∧ r ∈ f
  moving : ∀ (p : Pid) (b : BatchId) (rest : List BatchId) (acc buf : List ρ) (pc : List MoveAct),
      s.coll p = .moving b rest acc buf pc → MovingOk s p b buf pc

theorem MovingOk.spec {s : AState ρ} {p : Pid} {b : BatchId} {buf : List ρ} {pc : List MoveAct}
    (h : MovingOk s p b buf pc) {rest : List BatchId} {acc : List ρ} :
    s.nodeLock b = some p ∧ (removed pc = false → s.node b = some buf) ∧
      (copied pc = true → ∀ r ∈ buf, r ∈ consRows s) ∧ (Coll.moving b rest acc buf pc).inFlight = [] := by
  refine ⟨h.1, ?_⟩
  rcases h.2 with ⟨rfl, hn⟩ | ⟨rfl, hn, hsub⟩ | ⟨rfl, hsub⟩
  · exact ⟨fun _ => hn, fun hcp => by simp [copied] at hcp, rfl⟩
  · exact ⟨fun _ => hn, fun _ => hsub, rfl⟩
  · exact ⟨fun hrm => by simp [removed] at hrm, fun _ => hsub, rfl⟩

theorem safe_init (created : Bool) : Safe (init (absOps ρ) created) := by
  refine ⟨⟨?_, ?_⟩, ?_, ?_, ?_⟩ <;> cases created <;> simp [init, absOps, writtenRows, canceledRows, Excl]

theorem Safe.pcOk {s : AState ρ} (h : Safe s) : PcOk s := fun p b rest acc buf pc hc => by
  have := (h.moving p b rest acc buf pc hc).2
  grind only

theorem Safe.no_loss {s : AState ρ} (h : Safe s) {r : ρ} (hr : r ∈ writtenRows s ++ canceledRows s) :
    r ∈ consRows s ++ nodeRows s := by
  rcases h.kept r hr with hc | ⟨b, f, hf, hrf⟩
  · exact List.mem_append_left _ hc
  · exact List.mem_append_right _ (List.mem_flatMap.2 ⟨b, (h.dir_iff b).2 (by simp [hf]), by simp [hf, hrf]⟩)

theorem safe_step {s s' : AState ρ} (h : Safe s) (t : Step L faulty s s') : Safe s' where
  toDirs := dirs_step h.toDirs t
  excl := excl_step h.excl t
  kept x hx := by
    have hk := h.kept x
    cases t with
    | @append _ b r =>
      simp [writtenRows, canceledRows, consRows, State.setNode] at hx hk ⊢
      cases hn : s.node b <;> grind
    | copy hc => exact (hk hx).imp_left (List.mem_append_left _)
    | cancel =>
      simp [writtenRows, canceledRows, consRows] at hx hk ⊢
      grind
    | remove hc hf | dieRemoved _ hc hf =>
      have := h.moving _ _ _ _ _ _ hc
      have := hk hx
      simp only [MovingOk, consRows] at *
      sets
      grind only
    | _ => exact hk hx
  moving q b' rest' acc' buf' pc' hc' := by
    have hm := h.moving q b' rest' acc' buf' pc'
    have ho := @Excl.others_idle _ _ h.excl q
    unfold MovingOk at hm ⊢
    cases t with
    | begin hc hl =>
      have := h.excl.all_idle hl q
      sets at hc'
      grind only
    | raise hc =>
      have := hc.not_idle
      sets at hc'
      grind only
    | copy hc | remove hc | dieRemoved _ hc =>
      have := h.moving _ _ _ _ _ _ hc
      simp only [consRows, MovingOk] at hm this ⊢
      sets at hc' ⊢
      grind
    | breakLocks =>
      simp only [consRows] at hm ⊢
      grind
    | _ =>
      simp only [consRows] at hm ⊢
      sets at hc' ⊢
      grind

theorem safe_runX {x : AXState ρ} (h : Safe x.base) (ops : List (OpX ρ)) : Safe (runX (absOpsX ρ) x ops).base :=
  runX_inv (L := fun _ => True) (fun _ => Safe.pcOk) (fun _ _ => safe_step) h ops fun o _ => o.rowsIn_true

/-! ### a history without fault operations runs the base model -/

theorem stepBase_plain {φ : Type} (F : FileOpsX ρ φ) (x : XState ρ φ) (op : Op ρ) (hd : x.dead = [])
    (ha : ∀ p, x.armed p = none) : stepBase F x op = { x with base := step F.toFileOps x.base op } := by
  unfold stepBase
  split
  · rfl
  · next p _ =>
    simp only [hd, List.not_mem_nil, if_false, ha p]

theorem runX_base {φ : Type} (F : FileOpsX ρ φ) (x : XState ρ φ) (ops : List (Op ρ)) (hd : x.dead = [])
    (ha : ∀ p, x.armed p = none) :
    runX F x (ops.map .base) = { x with base := run F.toFileOps x.base ops } := by
  induction ops generalizing x with
  | nil => rfl
  | cons op ops ih =>
    simp only [List.map_cons, runX, List.foldl_cons, stepX]
    rw [stepBase_plain F x op hd ha]
    exact ih _ hd ha

/-- a dead process does nothing -/
theorem stepBase_dead {φ : Type} (F : FileOpsX ρ φ) (x : XState ρ φ) (op : Op ρ) (p : Pid)
    (hp : op.pid = some p) (hd : p ∈ x.dead) : stepBase F x op = x := by
  simp [stepBase, hp, hd]

end Faults
end Jade.Results
