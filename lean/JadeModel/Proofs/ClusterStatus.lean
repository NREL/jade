import JadeModel.Proofs.ClusterStale

/-!
Helper lemmas for `Props/ClusterStatus.lean`: closed forms of the loops of `_update_job_status`, and a counting lemma.
-/

namespace Jade.Cluster
open Jade.Gen.Cluster

/-- In this tree `_serialize_jobs` compares the job-status hash with `_config_hash`: whenever that slot does not
    hold a job-status snapshot (it never does, `Coherent.hashWf`), the test says "changed". -/
theorem jsChanged_of_cfgSlot (j : JsView) (x y : Option Snap) (hx : ∀ j' : JsView, x ≠ some (Snap.js j')) :
    jsChanged (Snap.js j) x y = true := by
  simp only [jsChanged, bne_iff_ne, ne_eq]
  intro h
  exact hx j h.symm

/-! ## counting -/

theorem range_count_mem (sel : List Nat) (n : Nat) (hnd : sel.Nodup) (hval : ∀ k ∈ sel, k < n) :
    (List.range' 0 n).countP (fun k => sel.contains k) = sel.length := by
  rw [List.countP_eq_length_filter]
  apply List.Perm.length_eq
  rw [List.perm_ext_iff_of_nodup (List.Nodup.sublist List.filter_sublist (List.nodup_range' (h := Nat.one_pos))) hnd]
  intro k
  simp only [List.mem_filter, List.mem_range'_1, List.contains_iff_mem, Nat.zero_le, true_and, Nat.zero_add]
  exact ⟨fun h => h.2, fun h => ⟨hval k h, h⟩⟩

theorem countP_add_range {α : Type} (p : α → Bool) (q : Nat → Bool) :
    ∀ (l1 l2 : List α) (k : Nat), l1.length = l2.length →
      (∀ (i : Nat) (h1 : i < l1.length) (h2 : i < l2.length),
        (if p l2[i] then 1 else 0) = (if p l1[i] then 1 else 0) + (if q (k + i) then 1 else 0)) →
      l2.countP p = l1.countP p + (List.range' k l1.length).countP q
  | [], [], _, _, _ => rfl
  | a :: l1, b :: l2, k, hlen, hpt => by
    have h0 := hpt 0 (Nat.zero_lt_succ _) (Nat.zero_lt_succ _)
    have ih := countP_add_range p q l1 l2 (k + 1) (Nat.succ.inj hlen) fun i h1 h2 => by
      have := hpt (i + 1) (Nat.succ_lt_succ h1) (Nat.succ_lt_succ h2)
      rwa [show k + (i + 1) = k + 1 + i by omega] at this
    simp only [List.getElem_cons_zero, Nat.add_zero] at h0
    simp only [List.countP_cons, List.length_cons, List.range'_succ, ih]
    omega

/-- If `l2` differs from `l1` in `p` exactly at the (distinct, valid) indices `c`, where `p` turns from false to true,
    then `countP p l2 = countP p l1 + c.length`. -/
theorem countP_pointwise {α : Type} (p : α → Bool) (c : List Nat) (l1 l2 : List α) (hlen : l1.length = l2.length)
    (hnd : c.Nodup) (hval : ∀ i ∈ c, i < l1.length)
    (hpt : ∀ (i : Nat) (h1 : i < l1.length) (h2 : i < l2.length),
      (if p l2[i] then 1 else 0) = (if p l1[i] then 1 else 0) + (if i ∈ c then 1 else 0)) :
    l2.countP p = l1.countP p + c.length := by
  rw [countP_add_range p (fun i => c.contains i) l1 l2 0 hlen (by simpa using hpt), range_count_mem c _ hnd hval]

/-! ## closed forms of the loops -/

/-- the job list after a loop: every entry transformed by a function of its index -/
def JobsAre (l' l : List JobView) (F : Nat → JobView → JobView) : Prop :=
  ∀ i : Nat, l'[i]? = (l[i]?).map (F i)

theorem JobsAre.length {l' l : List JobView} {F : Nat → JobView → JobView} (h : JobsAre l' l F) :
    l'.length = l.length := by
  apply Nat.le_antisymm <;> apply Nat.le_of_not_lt <;> intro hlt
  · have := h l.length
    simp [List.getElem?_eq_getElem hlt] at this
  · have := h l'.length
    simp [List.getElem?_eq_getElem hlt] at this

theorem mapIdx_self {α : Type} (l : List α) : l.mapIdx (fun _ v => v) = l :=
  List.ext_getElem? fun i => by simp

theorem mapIdx_set_eq {l : List JobView} {j : Nat} {v w : JobView} {F G : Nat → JobView → JobView}
    (hv : l[j]? = some v) (hj : G j w = F j v) (hne : ∀ i u, i ≠ j → G i u = F i u) :
    (l.set j w).mapIdx G = l.mapIdx F := by
  apply List.ext_getElem?
  intro i
  by_cases e : i = j
  · subst e
    rw [List.getElem?_mapIdx, List.getElem?_mapIdx, List.getElem?_set_self ((List.getElem?_eq_some_iff.1 hv).1), hv]
    simp [hj]
  · rw [List.getElem?_mapIdx, List.getElem?_mapIdx, List.getElem?_set_ne (Ne.symm e)]
    cases l[i]? <;> simp [hne _ _ e]

/-- the submitted loop under its precondition -/
theorem submitLoop_closed : ∀ (subs : List JobId) (m : Mem), subs.Nodup →
    (∀ i ∈ subs, ∃ v : JobView, m.js.jobs[i]? = some v ∧ v.state = .notSubmitted) →
    forEach submitOne subs m =
      ({ cfg := { m.cfg with submitted := m.cfg.submitted + subs.length },
         js := { m.js with jobs := m.js.jobs.mapIdx fun i v => if i ∈ subs then { v with state := .submitted } else v } },
       none)
  | [], m, _, _ => by simp [forEach_nil, mapIdx_self]
  | j :: subs, m, hnd, hpre => by
    obtain ⟨v, hv, hs⟩ := hpre j (List.mem_cons_self ..)
    obtain ⟨hj, hnd⟩ := List.nodup_cons.1 hnd
    have hstep : submitOne j m =
        ({ cfg := { m.cfg with submitted := m.cfg.submitted + 1 },
           js := { m.js with jobs := m.js.jobs.set j { v with state := .submitted } } }, none) := by
      simp [submitOne, hv, submitAssert_iff, hs]; exact ⟨rfl, rfl⟩
    have hl : (m.js.jobs.set j { v with state := .submitted }).mapIdx
          (fun i v => if i ∈ subs then { v with state := .submitted } else v) =
        m.js.jobs.mapIdx fun i v => if i ∈ j :: subs then { v with state := .submitted } else v :=
      mapIdx_set_eq hv (by simp [hj]) (fun i u e => by simp [e])
    rw [forEach_cons_ok _ _ _ _ _ hstep, submitLoop_closed subs _ hnd fun i hi => ?_]
    · simp only [hl, List.length_cons, Nat.add_assoc, Nat.add_comm 1]
    · obtain ⟨w, hw, hws⟩ := hpre i (List.mem_cons_of_mem _ hi)
      exact ⟨w, (List.getElem?_set_ne fun e : j = i => hj (e ▸ hi)).trans hw, hws⟩

/-- the blocker set a job ends up with after the blocked loop -/
def blockedFinal (blk : List (JobId × List JobId)) (i : Nat) (orig : List JobId) : List JobId :=
  blk.foldl (fun acc b => if b.1 = i then b.2 else acc) orig

theorem blockedFinal_subset (blk : List (JobId × List JobId)) (i : Nat) (orig bound : List JobId)
    (ho : ∀ q ∈ orig, q ∈ bound) (hb : ∀ b ∈ blk, b.1 = i → ∀ q ∈ b.2, q ∈ bound) :
    ∀ q ∈ blockedFinal blk i orig, q ∈ bound := by
  induction blk generalizing orig with
  | nil => exact ho
  | cons b blk ih =>
    refine ih _ ?_ fun b' hb' => hb b' (List.mem_cons_of_mem _ hb')
    show ∀ q ∈ (if b.1 = i then b.2 else orig), q ∈ bound
    split
    · next e => exact hb b (List.mem_cons_self ..) e
    · exact ho

/-- the blocked loop under its precondition -/
theorem blockLoop_closed : ∀ (blk : List (JobId × List JobId)) (m : Mem),
    (∀ b ∈ blk, ∃ v : JobView, m.js.jobs[b.1]? = some v ∧ v.state = .notSubmitted) →
    forEach blockOne blk m =
      ({ m with js := { m.js with
          jobs := m.js.jobs.mapIdx fun i v => { v with blockedBy := blockedFinal blk i v.blockedBy } } }, none)
  | [], m, _ => by simp [forEach_nil, blockedFinal, mapIdx_self]
  | b :: blk, m, hpre => by
    obtain ⟨v, hv, hs⟩ := hpre b (List.mem_cons_self ..)
    have hstep : blockOne b m =
        ({ m with js := { m.js with jobs := m.js.jobs.set b.1 { v with blockedBy := b.2 } } }, none) := by
      simp [blockOne, hv, blockedAssert_iff, hs]; rfl
    have hl : (m.js.jobs.set b.1 { v with blockedBy := b.2 }).mapIdx
          (fun i v => { v with blockedBy := blockedFinal blk i v.blockedBy }) =
        m.js.jobs.mapIdx fun i v => { v with blockedBy := blockedFinal (b :: blk) i v.blockedBy } :=
      mapIdx_set_eq hv (by simp [blockedFinal]) (fun i u e => by simp [blockedFinal, Ne.symm e])
    rw [forEach_cons_ok _ _ _ _ _ hstep, blockLoop_closed blk _ fun b' hb' => ?_]
    · simp only [hl]
    · -- a job blocked twice is still NOT_SUBMITTED the second time
      obtain ⟨w, hw, hws⟩ := hpre b' (List.mem_cons_of_mem _ hb')
      by_cases e : b.1 = b'.1
      · rw [← e, hv] at hw; cases hw
        exact ⟨{ v with blockedBy := b.2 }, by rw [← e]; exact List.getElem?_set_self ((List.getElem?_eq_some_iff.1 hv).1), hs⟩
      · exact ⟨w, (List.getElem?_set_ne e).trans hw, hws⟩

theorem cancelLoop_closed : ∀ (can : List JobId) (m : Mem),
    forEach cancelOne can m = ({ m with cfg := { m.cfg with submitted := m.cfg.submitted + can.length } }, none)
  | [], m => rfl
  | j :: can, m => by
    rw [forEach_cons_ok _ _ _ _ _ (rfl : cancelOne j m = _), cancelLoop_closed can]
    simp only [List.length_cons, submittedAfterCancel_eq, Nat.add_assoc, Nat.add_comm 1]

/-- the completed loop under its precondition -/
theorem completeLoop_closed (processed : List JobId) : ∀ (comp : List JobId) (m : Mem),
    (∀ i ∈ comp, i ∉ processed ∧ i < m.js.jobs.length) →
    forEach (completeOne processed) comp m =
      ({ cfg := { m.cfg with completed := m.cfg.completed + comp.length },
         js := { m.js with jobs := m.js.jobs.mapIdx fun i v => if i ∈ comp then { v with state := .done } else v } },
       none)
  | [], m, _ => by simp [forEach_nil, mapIdx_self]
  | j :: comp, m, hpre => by
    obtain ⟨hnp, hjl⟩ := hpre j (List.mem_cons_self ..)
    have hv := List.getElem?_eq_getElem hjl
    have hstep : completeOne processed j m =
        ({ cfg := { m.cfg with completed := m.cfg.completed + 1 },
           js := { m.js with jobs := m.js.jobs.set j { m.js.jobs[j] with state := .done } } }, none) := by
      simp [completeOne, completeAssert_iff, hnp, hv]; exact ⟨rfl, rfl⟩
    have hl : (m.js.jobs.set j { m.js.jobs[j] with state := .done }).mapIdx
          (fun i v => if i ∈ comp then { v with state := .done } else v) =
        m.js.jobs.mapIdx fun i v => if i ∈ j :: comp then { v with state := .done } else v :=
      mapIdx_set_eq hv (by simp) (fun i u e => by simp [e])
    rw [forEach_cons_ok _ _ _ _ _ hstep, completeLoop_closed processed comp _ fun i hi => ?_]
    · simp only [hl, List.length_cons, Nat.add_assoc, Nat.add_comm 1]
    · simpa using hpre i (List.mem_cons_of_mem _ hi)

/-! ## the whole body of `_update_job_status` -/

/-- what `_update_job_status` makes of job `i` -/
def updJob (a : UpdateArgs) (i : Nat) (v : JobView) : JobView :=
  clearOne { state := if i ∈ a.completed then .done else if i ∈ a.submitted then .submitted else v.state,
             blockedBy := blockedFinal a.blocked i v.blockedBy, cancelFlag := v.cancelFlag }

def updMem (a : UpdateArgs) (m : Mem) : Mem :=
  { cfg := { m.cfg with submitted := m.cfg.submitted + a.submitted.length + a.canceled.length,
                        completed := m.cfg.completed + a.completed.length },
    js := { jobs := m.js.jobs.mapIdx (updJob a), hpcIds := a.hpcIds, batchIdx := a.batchIdx, version := m.js.version } }

/-- the conditions under which no assertion of `_update_job_status` fires, on the in-memory copy -/
structure ArgsPre (jobs : List JobView) (a : UpdateArgs) : Prop where
  subNodup : a.submitted.Nodup
  sub : ∀ i ∈ a.submitted, ∃ v : JobView, jobs[i]? = some v ∧ v.state = .notSubmitted
  blk : ∀ b ∈ a.blocked, b.1 ∉ a.submitted ∧ ∃ v : JobView, jobs[b.1]? = some v ∧ v.state = .notSubmitted
  comp : ∀ i ∈ a.completed, i ∉ a.submitted ∧ (∀ b ∈ a.blocked, b.1 ≠ i) ∧ i < jobs.length

theorem applyUpdate_closed (a : UpdateArgs) (m : Mem) (hpre : ArgsPre m.js.jobs a) :
    applyUpdate a m = (updMem a m, none) := by
  unfold applyUpdate
  simp only
  rw [submitLoop_closed _ _ hpre.subNodup (by exact hpre.sub)]
  simp only [andThen]
  rw [blockLoop_closed]
  · simp only [cancelLoop_closed]
    rw [completeLoop_closed]
    · simp only [updMem, clearAll, List.mapIdx_mapIdx]
      congr 3
      apply List.ext_getElem?
      intro i
      simp only [List.getElem?_map, List.getElem?_mapIdx, Option.map_map]
      congr 1
      funext v
      by_cases h1 : i ∈ a.completed <;> by_cases h2 : i ∈ a.submitted <;> simp [updJob, h1, h2]
    · intro i hi
      obtain ⟨h1, h2, h3⟩ := hpre.comp i hi
      exact ⟨by simpa [processedOf] using ⟨h1, fun x hx => h2 _ hx rfl⟩, by simpa using h3⟩
  · intro b hb
    obtain ⟨hns, v, hv, hs⟩ := hpre.blk b hb
    exact ⟨v, by simp [List.getElem?_mapIdx, hv, hns], hs⟩

/-! ## the persisted status: invariant, argument well-formedness, monotonicity -/

def isDone (v : JobView) : Bool := v.state == JState.done
/-- submitted or done -/
def isSubm (v : JobView) : Bool := v.state != JState.notSubmitted

/-- the C09 relations on the files (meaningful whenever they can be read) -/
structure StatusInv (d : Disk) : Prop where
  total : d.cfg.numJobs = d.js.jobs.length
  completed : d.cfg.completed = d.js.jobs.countP isDone
  submitted : d.cfg.submitted = d.js.jobs.countP isSubm
  blockers : ∀ v ∈ d.js.jobs, v.state ≠ .notSubmitted → v.blockedBy = []
  verCfg : d.cfg.version = d.cfgVer
  verJs : d.js.version = d.jsVer

def stateRank : JState → Nat
  | .notSubmitted => 0
  | .submitted => 1
  | .done => 2

/-- job list `l'` is "not behind" `l`: states only advanced, blocker sets only shrank -/
def JobsAhead (l l' : List JobView) : Prop :=
  l'.length = l.length ∧
  ∀ (i : Nat) (v v' : JobView), l[i]? = some v → l'[i]? = some v' →
    stateRank v.state ≤ stateRank v'.state ∧ (∀ q ∈ v'.blockedBy, q ∈ v.blockedBy) ∧ v'.cancelFlag = v.cancelFlag

/-- the C09 two-state relation between the files before and after an operation -/
structure Mono (d d' : Disk) : Prop where
  submitted : d.cfg.submitted ≤ d'.cfg.submitted
  completed : d.cfg.completed ≤ d'.cfg.completed
  total : d'.cfg.numJobs = d.cfg.numJobs
  jobs : JobsAhead d.js.jobs d'.js.jobs
  complete : d.cfg.isComplete = true → d'.cfg.isComplete = true
  cfgVer : d.cfgVer ≤ d'.cfgVer
  jsVer : d.jsVer ≤ d'.jsVer
  cfgChanged : d'.cfg ≠ d.cfg → d.cfgVer < d'.cfgVer
  jsChanged : d'.js ≠ d.js → d.jsVer < d'.jsVer

/-- Well-formedness of the arguments of `update_job_status` as a submitter round produces them, relative to the files
    `d` and to the handle's in-memory job status `mj` (which the round has already modified: blocker sets reduced, the
    jobs it canceled marked DONE). -/
structure UpdateArgsOK (d : Disk) (mj : JsView) (a : UpdateArgs) : Prop where
  len : mj.jobs.length = d.js.jobs.length
  /-- memory = disk, except reduced blockers and jobs canceled by this round (NOT_SUBMITTED on disk, DONE in memory,
      listed in `canceled_jobs`) -/
  mem : ∀ (i : Nat) (dv mv : JobView), d.js.jobs[i]? = some dv → mj.jobs[i]? = some mv →
    mv.cancelFlag = dv.cancelFlag ∧ (∀ q ∈ mv.blockedBy, q ∈ dv.blockedBy) ∧
    (mv.state = dv.state ∨ (dv.state = .notSubmitted ∧ mv.state = .done ∧ i ∈ a.canceled))
  subNodup : a.submitted.Nodup
  /-- submitted jobs are NOT_SUBMITTED -/
  sub : ∀ i ∈ a.submitted, ∃ mv : JobView, mj.jobs[i]? = some mv ∧ mv.state = .notSubmitted
  /-- blocked jobs are NOT_SUBMITTED, not submitted in this round, and carry (a subset of) their current blockers -/
  blk : ∀ b ∈ a.blocked, b.1 ∉ a.submitted ∧
    ∃ mv : JobView, mj.jobs[b.1]? = some mv ∧ mv.state = .notSubmitted ∧ ∀ q ∈ b.2, q ∈ mv.blockedBy
  canNodup : a.canceled.Nodup
  /-- canceled jobs are NOT_SUBMITTED on disk and are reported as completed -/
  can : ∀ i ∈ a.canceled, i ∈ a.completed ∧ ∃ dv : JobView, d.js.jobs[i]? = some dv ∧ dv.state = .notSubmitted
  compNodup : a.completed.Nodup
  /-- completed names were not "processed" in this round and are SUBMITTED on disk, or canceled by this round -/
  comp : ∀ i ∈ a.completed, i ∉ a.submitted ∧ (∀ b ∈ a.blocked, b.1 ≠ i) ∧
    (i ∈ a.canceled ∨ ∃ dv : JobView, d.js.jobs[i]? = some dv ∧ dv.state = .submitted)

theorem clearOne_state (v : JobView) : (clearOne v).state = v.state := by
  unfold clearOne; split <;> rfl

theorem clearOne_cancelFlag (v : JobView) : (clearOne v).cancelFlag = v.cancelFlag := by
  unfold clearOne; split <;> rfl

theorem clearOne_blockedBy_sub (v : JobView) : ∀ q ∈ (clearOne v).blockedBy, q ∈ v.blockedBy := by
  unfold clearOne; split
  · intro q hq; cases hq
  · intro q hq; exact hq

theorem clearOne_cleared (v : JobView) (h : (clearOne v).state ≠ .notSubmitted) : (clearOne v).blockedBy = [] := by
  rw [clearOne_state] at h
  unfold clearOne
  split
  · rfl
  · next hc =>
    by_cases hb : v.blockedBy = []
    · exact hb
    · exact absurd ((clearBlockers_iff _ _).2 ⟨hb, by cases hs : v.state <;> simp_all⟩) hc

theorem updJob_state (a : UpdateArgs) (i : Nat) (v : JobView) :
    (updJob a i v).state = if i ∈ a.completed then .done else if i ∈ a.submitted then .submitted else v.state := by
  unfold updJob; rw [clearOne_state]

theorem UpdateArgsOK.pre {d : Disk} {mj : JsView} {a : UpdateArgs} (h : UpdateArgsOK d mj a) : ArgsPre mj.jobs a := by
  refine ⟨h.subNodup, h.sub, fun b hb => ?_, fun i hi => ?_⟩
  · obtain ⟨h1, mv, h2, h3, _⟩ := h.blk b hb
    exact ⟨h1, mv, h2, h3⟩
  · obtain ⟨h1, h2, h3⟩ := h.comp i hi
    refine ⟨h1, h2, h.len ▸ ?_⟩
    rcases h3 with h3 | ⟨dv, h3, _⟩
    · obtain ⟨_, dv, h4, _⟩ := h.can i h3; exact (List.getElem?_eq_some_iff.1 h4).1
    · exact (List.getElem?_eq_some_iff.1 h3).1

/-- Job `i` in a well-formed update, by what the round reports of it: canceled (NOT_SUBMITTED on disk), completed
    (SUBMITTED on disk), submitted (NOT_SUBMITTED on disk), or not mentioned (memory = disk). -/
theorem UpdateArgsOK.kind {d : Disk} {mj : JsView} {a : UpdateArgs} (hok : UpdateArgsOK d mj a) {i : Nat}
    {dv mv : JobView} (hd : d.js.jobs[i]? = some dv) (hm : mj.jobs[i]? = some mv) :
    (i ∈ a.completed ∧ i ∉ a.submitted ∧ i ∈ a.canceled ∧ dv.state = .notSubmitted) ∨
    (i ∈ a.completed ∧ i ∉ a.submitted ∧ i ∉ a.canceled ∧ dv.state = .submitted) ∨
    (i ∉ a.completed ∧ i ∈ a.submitted ∧ i ∉ a.canceled ∧ dv.state = .notSubmitted) ∨
    (i ∉ a.completed ∧ i ∉ a.submitted ∧ i ∉ a.canceled ∧ mv.state = dv.state) := by
  have h1 := hok.can i
  have h2 := hok.comp i
  have h3 := hok.sub i
  have h4 := (hok.mem i dv mv hd hm).2.2
  grind

/-- what the update does to one job, compared with the entry on disk -/
theorem UpdateArgsOK.facts {d : Disk} {mj : JsView} {a : UpdateArgs} (hok : UpdateArgsOK d mj a) {i : Nat}
    {dv mv : JobView} (hd : d.js.jobs[i]? = some dv) (hm : mj.jobs[i]? = some mv) :
    ((if isDone (updJob a i mv) then 1 else 0) = (if isDone dv then 1 else 0) + (if i ∈ a.completed then 1 else 0)) ∧
    ((if isSubm (updJob a i mv) then 1 else 0) =
        (if isSubm dv then 1 else 0) + (if i ∈ a.submitted ++ a.canceled then 1 else 0)) ∧
    stateRank dv.state ≤ stateRank (updJob a i mv).state ∧
    (∀ q ∈ (updJob a i mv).blockedBy, q ∈ dv.blockedBy) ∧ (updJob a i mv).cancelFlag = dv.cancelFlag := by
  obtain ⟨m1, m2, _⟩ := hok.mem i dv mv hd hm
  have hb : ∀ q ∈ (updJob a i mv).blockedBy, q ∈ dv.blockedBy := fun q hq => by
    refine m2 q (blockedFinal_subset a.blocked i _ _ (fun _ h => h) (fun b hb e q hq => ?_) q
      (clearOne_blockedBy_sub _ q hq))
    obtain ⟨_, mv', e1, _, e3⟩ := hok.blk b hb
    rw [e, hm] at e1; cases e1; exact e3 q hq
  rcases hok.kind hd hm with ⟨h1, h2, h3, h4⟩ | ⟨h1, h2, h3, h4⟩ | ⟨h1, h2, h3, h4⟩ | ⟨h1, h2, h3, h4⟩ <;>
    exact ⟨by simp [isDone, updJob_state, h1, h2, h4], by simp [isSubm, updJob_state, h1, h2, h3, h4],
      by simp [stateRank, updJob_state, h1, h2, h4], hb, (clearOne_cancelFlag _).trans m1⟩

/-- `_serialize_jobs` by a handle whose copy is current: the job status is always rewritten, because the changed-test
    looks at `_config_hash` (`jsChanged_of_cfgSlot`) -/
theorem serializeJs_write (d : Disk) (x : Handle) (j : JsView) (hj : j.version = d.jsVer)
    (hwf : ∀ j' : JsView, x.cfgHash ≠ some (Snap.js j')) :
    serializeJs d x j =
      ({ d with jsVer := j.version + 1, js := { j with version := j.version + 1 } },
       { x with js := some { j with version := j.version + 1 },
                jsHash := some (Snap.js { j with version := j.version + 1 }) }, none) := by
  rcases serializeJs_cases d x j with ⟨g1, _⟩ | ⟨_, g2, _⟩ | ⟨_, _, g3⟩
  · exact absurd hj g1
  · rw [jsChanged_of_cfgSlot j x.cfgHash x.jsHash hwf] at g2; cases g2
  · exact g3

/-- `_serialize` + `_serialize_jobs` by a handle whose copies are current: the job status is always rewritten
    (`jsChanged_of_cfgSlot`), the config only when it differs from the disk's -/
theorem serializeBoth_result (d : Disk) (x : Handle) (j : JsView) (hv : x.cfg.version = d.cfgVer)
    (hj : j.version = d.jsVer) (hhash : ∀ c : CfgView, x.cfgHash = some (Snap.cfg c) → c = d.cfg)
    (hwf : ∀ j' : JsView, x.cfgHash ≠ some (Snap.js j')) :
    (serializeBoth d x j).2.2 = .ok ∧
    (serializeBoth d x j).1.js = { j with version := d.jsVer + 1 } ∧ (serializeBoth d x j).1.jsVer = d.jsVer + 1 ∧
    (serializeBoth d x j).1.cfg = { x.cfg with version := (serializeBoth d x j).1.cfgVer } ∧
    d.cfgVer ≤ (serializeBoth d x j).1.cfgVer ∧
    ((serializeBoth d x j).1.cfg ≠ d.cfg → d.cfgVer < (serializeBoth d x j).1.cfgVer) := by
  unfold serializeBoth
  rcases serializeCfg_cases d x with ⟨h1, _⟩ | ⟨_, h2, h3⟩ | ⟨_, _, h3⟩
  · exact absurd hv h1
  · rw [h3]
    simp only
    rw [serializeJs_write d x j hj hwf]
    exact ⟨rfl, by rw [hj], by rw [hj], by rw [← hv, hhash _ h2], Nat.le_refl _, fun h => absurd rfl h⟩
  · rw [h3]
    simp only
    rw [serializeJs_write _ _ j (by exact hj)]
    · exact ⟨rfl, by rw [hj], by rw [hj], rfl, by simp [hv], fun _ => by simp [hv]⟩
    · intro j' e; cases e

theorem UpdateArgsOK.nodupSubCan {d : Disk} {mj : JsView} {a : UpdateArgs} (hok : UpdateArgsOK d mj a) :
    (a.submitted ++ a.canceled).Nodup := by
  rw [List.nodup_append]
  refine ⟨hok.subNodup, hok.canNodup, ?_⟩
  intro x hx y hy e
  subst e
  exact (hok.comp x (hok.can x hy).1).1 hx

theorem UpdateArgsOK.jobs {d : Disk} {mj : JsView} {a : UpdateArgs} (hok : UpdateArgsOK d mj a) :
    (mj.jobs.mapIdx (updJob a)).countP isDone = d.js.jobs.countP isDone + a.completed.length ∧
    (mj.jobs.mapIdx (updJob a)).countP isSubm = d.js.jobs.countP isSubm + (a.submitted ++ a.canceled).length ∧
    JobsAhead d.js.jobs (mj.jobs.mapIdx (updJob a)) ∧
    ∀ v ∈ mj.jobs.mapIdx (updJob a), v.state ≠ .notSubmitted → v.blockedBy = [] := by
  have hlen : d.js.jobs.length = (mj.jobs.mapIdx (updJob a)).length := by rw [List.length_mapIdx, hok.len]
  have facts := fun (i : Nat) (h1 : i < d.js.jobs.length) (h2 : i < (mj.jobs.mapIdx (updJob a)).length) =>
    List.getElem_mapIdx (h := h2) ▸
      hok.facts (List.getElem?_eq_getElem h1) (List.getElem?_eq_getElem (by simpa using h2))
  refine ⟨?_, ?_, ⟨hlen.symm, fun i v v' hv hv' => ?_⟩, fun v hv hs => ?_⟩
  · exact countP_pointwise isDone a.completed _ _ hlen hok.compNodup
      (fun i hi => hok.len ▸ (hok.pre.comp i hi).2.2) fun i h1 h2 => (facts i h1 h2).1
  · refine countP_pointwise isSubm _ _ _ hlen hok.nodupSubCan (fun i hi => ?_) fun i h1 h2 => (facts i h1 h2).2.1
    rcases List.mem_append.1 hi with hi | hi
    · obtain ⟨mv, e, _⟩ := hok.sub i hi
      exact hok.len ▸ (List.getElem?_eq_some_iff.1 e).1
    · obtain ⟨_, dv, e, _⟩ := hok.can i hi
      exact (List.getElem?_eq_some_iff.1 e).1
  · obtain ⟨h1, rfl⟩ := List.getElem?_eq_some_iff.1 hv
    obtain ⟨h2, rfl⟩ := List.getElem?_eq_some_iff.1 hv'
    exact (facts i h1 h2).2.2
  · obtain ⟨i, h2, rfl⟩ := List.getElem_of_mem hv
    rw [List.getElem_mapIdx] at hs ⊢
    exact clearOne_cleared _ hs

theorem JobsAhead.refl (l : List JobView) : JobsAhead l l :=
  ⟨rfl, fun i v v' h h' => by rw [h] at h'; cases h'; exact ⟨Nat.le_refl _, fun _ h => h, rfl⟩⟩

theorem Mono.refl (d : Disk) : Mono d d :=
  ⟨Nat.le_refl _, Nat.le_refl _, rfl, .refl _, id, Nat.le_refl _, Nat.le_refl _, fun h => absurd rfl h,
   fun h => absurd rfl h⟩

theorem StatusInv.marker {d : Disk} (h : StatusInv d) (m : Bool) : StatusInv { d with marker := m } :=
  ⟨h.total, h.completed, h.submitted, h.blockers, h.verCfg, h.verJs⟩

theorem Mono.marker {d d' : Disk} (h : Mono d d') (m : Bool) : Mono d { d' with marker := m } :=
  ⟨h.submitted, h.completed, h.total, h.jobs, h.complete, h.cfgVer, h.jsVer, h.cfgChanged, h.jsChanged⟩

/-! ## the other operations -/

/-- a config-only method (`x1` = the handle after the in-memory assignment, which leaves the counters alone) by a
    handle whose config copy is the disk's: the status relations are untouched -/
theorem cfgOnly_status (d : Disk) (x x1 : Handle) (hI : StatusInv d) (hcfg : x.cfg = d.cfg)
    (hhash : ∀ c : CfgView, x1.cfgHash = some (Snap.cfg c) → c = d.cfg)
    (h1 : x1.cfg.submitted = x.cfg.submitted) (h2 : x1.cfg.completed = x.cfg.completed)
    (h3 : x1.cfg.numJobs = x.cfg.numJobs) (h4 : x1.cfg.version = x.cfg.version)
    (h5 : x.cfg.isComplete = true → x1.cfg.isComplete = true) :
    StatusInv (serializeCfg d x1).1 ∧ Mono d (serializeCfg d x1).1 ∧ (serializeCfg d x1).2.2 = none ∧
    (serializeCfg d x1).1.cfg = { x1.cfg with version := (serializeCfg d x1).1.cfgVer } := by
  rw [hcfg] at h1 h2 h3 h4 h5
  have hv : x1.cfg.version = d.cfgVer := h4.trans hI.verCfg
  rcases serializeCfg_cases d x1 with ⟨g1, _⟩ | ⟨_, g2, g3⟩ | ⟨_, _, g3⟩
  · exact absurd hv g1
  · rw [g3]; exact ⟨hI, .refl d, rfl, by rw [← hv, hhash _ g2]⟩
  · rw [g3]
    exact ⟨⟨h3.trans hI.total, h2.trans hI.completed, h1.trans hI.submitted, hI.blockers, rfl, hI.verJs⟩,
        ⟨Nat.le_of_eq h1.symm, Nat.le_of_eq h2.symm, h3, .refl _, h5, by simp [hv], Nat.le_refl _,
          fun _ => by simp [hv], fun h => absurd rfl h⟩, rfl, rfl⟩

/-! ## a second SUBMITTED for the same job is an assertion error -/

theorem submitOne_cases (j : JobId) (m : Mem) :
    (m.js.jobs[j]? = none ∧ submitOne j m = (m, some .keyError)) ∨
    (∃ w : JobView, m.js.jobs[j]? = some w ∧ w.state = .submitted ∧ submitOne j m = (m, some .assertion)) ∨
    (∃ w : JobView, m.js.jobs[j]? = some w ∧ w.state ≠ .submitted ∧
      submitOne j m = ({ cfg := { m.cfg with submitted := m.cfg.submitted + 1 },
                         js := { m.js with jobs := m.js.jobs.set j { w with state := .submitted } } }, none)) := by
  unfold submitOne
  cases hj : m.js.jobs[j]? with
  | none => exact .inl ⟨rfl, rfl⟩
  | some w =>
    by_cases hs : w.state = .submitted
    · exact .inr (.inl ⟨w, rfl, hs, by simp [submitAssert_iff, hs]⟩)
    · exact .inr (.inr ⟨w, rfl, hs, by simp [submitAssert_iff, hs]; exact ⟨rfl, rfl⟩⟩)

theorem submitLoop_ok_iff : ∀ (subs : List JobId) (m : Mem), (∀ i ∈ subs, i < m.js.jobs.length) →
    ((forEach submitOne subs m).2 = none ∨ (forEach submitOne subs m).2 = some .assertion) ∧
    ((forEach submitOne subs m).2 = none ↔
      subs.Nodup ∧ ∀ i ∈ subs, ∀ v : JobView, m.js.jobs[i]? = some v → v.state ≠ .submitted)
  | [], _, _ => ⟨.inl rfl, by simp [forEach_nil]⟩
  | j :: subs, m, hval => by
    rcases submitOne_cases j m with ⟨h1, _⟩ | ⟨w, hw, hws, h2⟩ | ⟨w, hw, hws, h2⟩
    · rw [List.getElem?_eq_getElem (hval j (List.mem_cons_self ..))] at h1; cases h1
    · rw [forEach_cons_err _ _ _ _ _ _ h2]
      exact ⟨.inr rfl, ⟨fun h => (nomatch h), fun h => absurd hws (h.2 j (List.mem_cons_self ..) w hw)⟩⟩
    · rw [forEach_cons_ok _ _ _ _ _ h2]
      obtain ⟨ih1, ih2⟩ := submitLoop_ok_iff subs
        { cfg := { m.cfg with submitted := m.cfg.submitted + 1 },
          js := { m.js with jobs := m.js.jobs.set j { w with state := .submitted } } }
        fun i hi => by simpa using hval i (List.mem_cons_of_mem _ hi)
      refine ⟨ih1, ih2.trans ?_⟩
      simp only [List.nodup_cons, List.mem_cons, forall_eq_or_imp]
      constructor
      · rintro ⟨hnd, h⟩
        have hj : j ∉ subs := fun hj =>
          h j hj _ (List.getElem?_set_self ((List.getElem?_eq_some_iff.1 hw).1)) rfl
        exact ⟨⟨hj, hnd⟩, fun v hv => by rw [hw] at hv; cases hv; exact hws,
          fun i hi v hv => h i hi v (by rw [List.getElem?_set_ne fun e : j = i => hj (e ▸ hi)]; exact hv)⟩
      · rintro ⟨⟨hj, hnd⟩, _, h⟩
        exact ⟨hnd, fun i hi v hv => h i hi v (by rwa [List.getElem?_set_ne fun e : j = i => hj (e ▸ hi)] at hv)⟩

theorem andThen_of_err (r : Mem × Option Err) (f : Mem → Mem × Option Err) (e : Err) (h : r.2 = some e) :
    andThen r f = r := by
  obtain ⟨m, e'⟩ := r
  cases h
  rfl

/-- `update_job_status` by a handle whose copies are current, with a job listed as submitted twice or already SUBMITTED
    in the handle's copy: AssertionError under the lock, nothing is written -/
theorem doUpdate_double_submit (a : UpdateArgs) (d : Disk) (x : Handle) (mj : JsView) (hv : x.cfg.version = d.cfgVer)
    (hjs : x.js = some mj) (hver : mj.version = d.jsVer)
    (hbad : ¬ a.submitted.Nodup ∨ ∃ i ∈ a.submitted, ∃ v : JobView, mj.jobs[i]? = some v ∧ v.state = .submitted)
    (hvalid : ∀ i ∈ a.submitted, i < mj.jobs.length) :
    ∃ y : Handle, doUpdate a d x = (d, y, .err .assertion) := by
  obtain ⟨h1, h2⟩ := submitLoop_ok_iff a.submitted
    { cfg := x.cfg, js := { mj with hpcIds := a.hpcIds, batchIdx := a.batchIdx } } hvalid
  have herr : (forEach submitOne a.submitted
      { cfg := x.cfg, js := { mj with hpcIds := a.hpcIds, batchIdx := a.batchIdx } }).2 = some .assertion := by
    refine h1.resolve_left fun h => ?_
    obtain ⟨hnd, hs⟩ := h2.1 h
    rcases hbad with hb | ⟨i, hi, v, hv, hvs⟩
    · exact hb hnd
    · exact hs i hi v hv hvs
  have hu : (applyUpdate a { cfg := x.cfg, js := mj }).2 = some .assertion := by
    unfold applyUpdate
    simp only
    rw [andThen_of_err _ _ _ herr, andThen_of_err _ _ _ herr, andThen_of_err _ _ _ herr, andThen_of_err _ _ _ herr]
    exact herr
  exact ⟨_, (doUpdate_current a d x mj hv hjs hver).1 _ hu⟩

/-! ## `prepare_for_resubmission` -/

theorem resubmitLoop_length (sel : List JobId) (bl : List (JobId × List JobId)) :
    ∀ (jobs : List JobView) (i c : Nat), (resubmitLoop sel bl i jobs c).1.length = jobs.length
  | [], _, _ => rfl
  | v :: vs, i, c => by
    unfold resubmitLoop
    split <;> simp [resubmitLoop_length sel bl vs]

theorem resubmitLoop_done (sel : List JobId) (bl : List (JobId × List JobId)) :
    ∀ (jobs : List JobView) (i c : Nat),
      (resubmitLoop sel bl i jobs c).2 = c + (resubmitLoop sel bl i jobs c).1.countP isDone
  | [], _, _ => rfl
  | v :: vs, i, c => by
    unfold resubmitLoop
    split
    · simp [resubmitLoop_done sel bl vs, isDone, resubmitState]
    · simp only [resubmitLoop_done sel bl vs, List.countP_cons, isDone, resubmitCounts, resubmitCompletedInc]
      by_cases hd : (v.state == JState.done) = true <;> simp [hd] <;> omega

/-- when every never-submitted job is selected, the jobs left alone are exactly the submitted-or-done ones -/
theorem resubmitLoop_subm (sel : List JobId) (bl : List (JobId × List JobId)) :
    ∀ (jobs : List JobView) (i c : Nat),
      (∀ (k : Nat) (v : JobView), jobs[k]? = some v → v.state = .notSubmitted → (i + k) ∈ sel) →
      (resubmitLoop sel bl i jobs c).1.countP isSubm + (List.range' i jobs.length).countP (fun k => sel.contains k)
        = jobs.length
  | [], _, _, _ => rfl
  | v :: vs, i, c, hall => by
    have ih := fun c => resubmitLoop_subm sel bl vs (i + 1) c fun k w hk hs => by
      have := hall (k + 1) w (by simpa using hk) hs
      rwa [show i + 1 + k = i + (k + 1) by omega]
    have h0 : v.state = .notSubmitted → sel.contains i = true := fun hs => by
      simpa using hall 0 v (by simp) hs
    unfold resubmitLoop
    split
    · next hc =>
      -- a selected job goes back to NOT_SUBMITTED
      have := ih c
      have hc' : i ∈ sel := by simpa using hc
      simp [List.range'_succ, hc', isSubm, resubmitState] at this ⊢
      omega
    · next hc =>
      have := ih (if resubmitCounts v.state then resubmitCompletedInc c else c)
      have hv : isSubm v = true := by
        unfold isSubm
        cases hs : v.state
        · exact absurd (h0 hs) hc
        · rfl
        · rfl
      have hc' : i ∉ sel := by simpa using hc
      simp [List.range'_succ, hc', hv] at this ⊢
      omega

theorem resubmitLoop_blockers (sel : List JobId) (bl : List (JobId × List JobId)) :
    ∀ (jobs : List JobView) (i c : Nat),
      (∀ v ∈ jobs, v.state ≠ .notSubmitted → v.blockedBy = []) →
      ∀ v ∈ (resubmitLoop sel bl i jobs c).1, v.state ≠ .notSubmitted → v.blockedBy = []
  | [], _, _, _, v, hv, _ => nomatch hv
  | w :: ws, i, c, hall, v, hv, hs => by
    have ih := fun c => resubmitLoop_blockers sel bl ws (i + 1) c fun u hu => hall u (List.mem_cons_of_mem _ hu)
    unfold resubmitLoop at hv
    split at hv <;> rcases List.mem_cons.1 hv with rfl | hv'
    · exact absurd rfl hs
    · exact ih _ v hv' hs
    · exact hall v (List.mem_cons_self ..) hs
    · exact ih _ v hv' hs

end Jade.Cluster
