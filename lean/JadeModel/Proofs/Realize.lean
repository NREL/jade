import Lean.Elab.Command
import Lean.Meta.Eqns
import Lean.Meta.Match.MatchEqsExt
import Lean.Meta.Match.MatcherInfo

/-!
Build-engineering helper (no mathematical content).

Lean generates some auxiliary declarations on demand, in whatever module first needs them: the splitter
and the (congruence) equations of a `match`, the equation lemmas of a definition — and, while doing so,
helper *definitions* such as `….congr_eq_1._sparseCasesOn_3`.  When two modules that do not import each
other both generate the same helper definition, a third module importing both fails with
"environment already contains …".  The proofs about `Jade.Sys.step` are in several modules that do not
import each other, so every module that introduces definitions they share (`SystemBase`, the `…Defs`
modules) ends with `#realize_aux Jade`: it generates these declarations for every `match` and definition
under that namespace that is visible at that point, so that all later modules find them already there.
-/

open Lean Meta Elab Command

/-- `#realize_aux NS` generates the on-demand auxiliary declarations (match splitter / equations /
    congruence equations, definitional equation lemmas) of every declaration under namespace `NS`. -/
elab "#realize_aux " ns:ident : command => do
  let ns := ns.getId
  let env ← getEnv
  let names : Array Name := env.constants.fold (init := #[]) fun acc n ci =>
    if ns.isPrefixOf n && !n.isInternalDetail || (ns.isPrefixOf n && isMatcherCore env n) then
      match ci with
      | .defnInfo _ => acc.push n
      | _ => acc
    else acc
  let names := names.qsort (fun a b => a.toString < b.toString)
  liftTermElabM do
    for n in names do
      if isMatcherCore (← getEnv) n then
        try discard <| Match.getEquationsFor n catch _ => pure ()
        try discard <| Match.genMatchCongrEqns n catch _ => pure ()
      else
        try discard <| getEqnsFor? n catch _ => pure ()
        try discard <| getUnfoldEqnFor? n (nonRec := true) catch _ => pure ()
