import JadeModel.Model.Results

/-!
Helper lemmas for `Props/C08.lean`: the byte-level round trip, one characterisation lemma per
generated definition / model operation, the accepted transitions of the row-level model as an
inductive relation `Step` (shared with the fault model), its invariants `Excl`, `Dirs`, `Good`,
`RowsOk`, and the refinement of the row-level model by the byte-level one.
-/

namespace Jade.Results
open Jade.Gen.Results

/-- turn every `Perm` in sight into an equation between `List.count`s; the rest is linear arithmetic -/
macro "by_count" : tactic =>
  `(tactic| (classical simp only [List.perm_iff_count, List.count_append] at *; grind))

/-! ## Lists -/
section Lists
variable {α β : Type}

theorem flatMap_congr_mem {l : List α} {g g' : α → List β} (h : ∀ c ∈ l, g' c = g c) :
    l.flatMap g' = l.flatMap g := by
  simp only [List.flatMap, List.map_congr_left h]

variable [DecidableEq α] {dir : List α} {g g' : α → List β} {b : α}

theorem flatMap_erase_perm (g : α → List β) (hb : b ∈ dir) :
    (dir.flatMap g).Perm (g b ++ (dir.erase b).flatMap g) :=
  (List.perm_cons_erase hb).flatMap_right g

theorem flatMap_erase_congr (hnd : dir.Nodup) (hg : ∀ c, c ≠ b → g' c = g c) :
    (dir.erase b).flatMap g' = (dir.erase b).flatMap g :=
  flatMap_congr_mem fun c hc => hg c (hnd.mem_erase_iff.1 hc).1

theorem flatMap_update_perm (hnd : dir.Nodup) (hb : b ∈ dir) (hg : ∀ c, c ≠ b → g' c = g c)
    {extra : List β} (hb' : g' b = g b ++ extra) : (dir.flatMap g').Perm (dir.flatMap g ++ extra) := by
  have h1 := flatMap_erase_perm g' hb
  have h2 := flatMap_erase_perm g hb
  rw [flatMap_erase_congr hnd hg, hb'] at h1
  by_count
end Lists

/-! ## Byte level -/

theorem splitOn_ne_nil (sep : Char) (l : List Char) : splitOn sep l ≠ [] := by
  induction l with
  | nil => simp [splitOn]
  | cons c cs ih =>
    unfold splitOn
    split
    · simp
    · split <;> simp

theorem splitOn_nosep (sep : Char) (l : List Char) (h : sep ∉ l) : splitOn sep l = [l] := by
  induction l with
  | nil => simp [splitOn]
  | cons c cs ih =>
    simp only [List.mem_cons, not_or] at h
    unfold splitOn
    rw [if_neg (fun e => h.1 e.symm), ih h.2]

theorem splitOn_append_sep (sep : Char) (l rest : List Char) (h : sep ∉ l) :
    splitOn sep (l ++ sep :: rest) = l :: splitOn sep rest := by
  induction l with
  | nil => simp [splitOn]
  | cons c cs ih =>
    simp only [List.mem_cons, not_or] at h
    simp only [List.cons_append, splitOn, if_neg (fun e : c = sep => h.1 e.symm), ih h.2]

theorem splitOn_joinWith (sep : Char) : ∀ parts : List (List Char), parts ≠ [] → (∀ x ∈ parts, sep ∉ x) →
    splitOn sep (joinWith sep parts) = parts
  | [x], _, h => splitOn_nosep sep x (h x (by simp))
  | x :: y :: rest, _, h => by
    rw [joinWith, splitOn_append_sep _ _ _ (h x (by simp)),
      splitOn_joinWith sep (y :: rest) (by simp) (fun z hz => h z (by simp [hz]))]

theorem not_mem_joinWith {c sep : Char} (hc : c ≠ sep) : ∀ parts : List (List Char), (∀ x ∈ parts, c ∉ x) →
    c ∉ joinWith sep parts
  | [], _ => by simp [joinWith]
  | [x], h => h x (by simp)
  | x :: y :: rest, h => by
    have := not_mem_joinWith hc (y :: rest) (fun z hz => h z (by simp [hz]))
    simp [joinWith, h x, hc, this]

theorem resultFields_eq :
    resultFields = [.name, .returnCode, .status, .execTime, .completionTime, .hpcJobId] := rfl

theorem delimiter_eq : delimiter = ',' := rfl

theorem header_names : splitOn delimiter headerLine = resultFields.map Field.pyName := by decide

theorem headerLine_no_nl : '\n' ∉ headerLine := by decide

theorem headerLine_ne_nil : headerLine ≠ [] := by decide

theorem Row.Legal.get {r : Row} (h : r.Legal) : ∀ f : Field, fieldOk (r.get f)
  | .name => h.name
  | .returnCode => h.returnCode
  | .status => h.status
  | .execTime => h.execTime
  | .completionTime => h.completionTime
  | .hpcJobId => h.hpcJobId

theorem renderRow_ne_nil (r : Row) : renderRow r ≠ [] := by
  simp [renderRow, resultFields_eq, joinWith]

theorem renderRow_no_nl (r : Row) (h : r.Legal) : '\n' ∉ renderRow r :=
  not_mem_joinWith (by decide) _ (by simpa using fun f _ => (h.get f).2)

theorem splitOn_renderRow (r : Row) (h : r.Legal) :
    splitOn delimiter (renderRow r) = resultFields.map r.get :=
  splitOn_joinWith _ _ (by simp [resultFields_eq]) (by simpa using fun f _ => (h.get f).1)

def fieldIdx : Field → Nat
  | .name => 0 | .returnCode => 1 | .status => 2 | .execTime => 3 | .completionTime => 4 | .hpcJobId => 5

theorem lastIdx_header (k : Field) :
    lastIdx (resultFields.map Field.pyName) k.pyName = some (fieldIdx k) := by
  cases k <;> decide

theorem cell_header (vals : List (List Char)) (k : Field) :
    cell (resultFields.map Field.pyName) vals k = some vals[fieldIdx k]? := by
  simp only [cell, lastIdx_header]

theorem parseRow_renderRow (r : Row) (h : r.Legal) :
    parseRow (resultFields.map Field.pyName) (renderRow r) = .ok r := by
  simp only [parseRow, splitOn_renderRow r h, cell_header]
  simp [fieldIdx, resultFields_eq, Row.get, h.rcInt]

theorem parseRows_render (rows : List Row) (h : ∀ r ∈ rows, r.Legal) :
    parseRows (resultFields.map Field.pyName) (rows.map renderRow ++ [[]]) = .ok rows := by
  induction rows with
  | nil => simp [parseRows]
  | cons r rs ih =>
    simp only [List.map_cons, List.cons_append, parseRows, renderRow_ne_nil, if_false]
    rw [parseRow_renderRow r (h r (by simp)), ih (fun x hx => h x (by simp [hx]))]

theorem splitOn_lines (rows : List Row) (h : ∀ r ∈ rows, r.Legal) :
    splitOn '\n' (rows.flatMap (fun r => renderRow r ++ ['\n'])) = rows.map renderRow ++ [[]] := by
  induction rows with
  | nil => simp [splitOn]
  | cons r rs ih =>
    simp only [List.flatMap_cons, List.append_assoc, List.cons_append, List.nil_append, List.map_cons]
    rw [splitOn_append_sep _ _ _ (renderRow_no_nl r (h r (by simp))), ih (fun x hx => h x (by simp [hx]))]

theorem parse_render (rows : List Row) (h : ∀ r ∈ rows, r.Legal) :
    parseFile (renderFile rows) = .ok rows := by
  unfold parseFile renderFile
  rw [if_neg (by simp [headerLine_ne_nil])]
  rw [splitOn_append_sep _ _ _ headerLine_no_nl, splitOn_lines rows h]
  simp only [header_names]
  exact parseRows_render rows h


/-! ## Protocol -/
section Protocol
variable {ρ : Type}

theorem moveOrder_eq : moveOrder = [.read, .append, .remove] := rfl
/-! one characterisation per generated flag, so that a change in the source breaks exactly the
lemma that names it -/
theorem appendUnderLock_eq : appendUnderLock = true := rfl
theorem moveUnderLock_eq : moveUnderLock = true := rfl
theorem processUnderLock_eq : processUnderLock = true := rfl
theorem releaseInFinally_eq : releaseInFinally = true := rfl
theorem processAccumulates_eq : processAccumulates = true := rfl
theorem appendTruncates_eq : appendTruncates = false := rfl
theorem processedTruncates_eq : processedTruncates = false := rfl

theorem flags_eq : appendUnderLock = true ∧ moveUnderLock = true ∧ processUnderLock = true ∧
    releaseInFinally = true ∧ processAccumulates = true ∧ appendTruncates = false ∧
    processedTruncates = false :=
  ⟨appendUnderLock_eq, moveUnderLock_eq, processUnderLock_eq, releaseInFinally_eq, processAccumulates_eq,
    appendTruncates_eq, processedTruncates_eq⟩

theorem globVisible_eq : globVisible = true := by decide

theorem copied_ar : copied [.append, .remove] = false := rfl
theorem copied_r : copied [.remove] = true := rfl
theorem removed_r : removed [.remove] = false := rfl

abbrev AState (ρ : Type) := State ρ (List ρ)

/-- unfold the state updates -/
macro "sets" loc:(Lean.Parser.Tactic.location)? : tactic =>
  `(tactic| simp only [State.setColl, State.setNode, State.setNodeLock] $[$loc]?)

theorem doAppend_eq (s : AState ρ) (w : Wid) (b : BatchId) (r : ρ) :
    doAppend (absOps ρ) s w b r =
      if s.nodeLock b = none then
        { (s.setNode b (some ((s.node b).getD [] ++ [r]))) with
          dir := if (s.node b).isSome then s.dir else s.dir ++ [b]
          written := s.written ++ [(w, b, r)] }
      else s := by
  simp [doAppend, lockFree, absOps, flags_eq]

theorem doBegin_eq (s : AState ρ) (p : Pid) (snap : List BatchId) :
    doBegin s p snap =
      match s.coll p with
      | .idle =>
        if s.consLock = none ∧ snap.Perm s.dir then
          { (s.setColl p (.collecting snap [])) with consLock := some p }
        else s
      | _ => s := by
  unfold doBegin
  split <;> simp_all [lockFree, flags_eq, globbed, globVisible_eq, List.isPerm_iff]

theorem raiseOut_eq (s : AState ρ) (p : Pid) (b : BatchId) :
    raiseOut s p b =
      { ((s.setNodeLock b none).setColl p .idle) with
        consLock := none, returned := s.returned ++ [(p, .raised)] } := by
  simp [raiseOut, flags_eq, State.setNodeLock, State.setColl]

theorem raiseOut_setNodeLock (s : AState ρ) (p : Pid) (b : BatchId) (h : Option Pid) :
    raiseOut (s.setNodeLock b h) p b = raiseOut s p b := by
  simp only [raiseOut_eq, State.setNodeLock, State.setColl]
  congr 1
  funext c
  split <;> rfl

theorem doLockFile_eq (s : AState ρ) (p : Pid) :
    doLockFile (absOps ρ) s p =
      match s.coll p with
      | .collecting (b :: rest) acc =>
        if s.nodeLock b = none then
          match s.node b with
          | none => raiseOut s p b
          | some f => ((s.setNodeLock b (some p)).setColl p (.moving b rest acc f [.append, .remove]))
        else s
      | _ => s := by
  unfold doLockFile
  split
  · simp only [lockFree, flags_eq, moveOrder_eq, settle, Bool.not_true, Bool.false_or, if_true]
    split
    · simp only [State.setNodeLock]
      split <;> simp_all [absOps, State.setColl, ← raiseOut_setNodeLock s p _ (some p), State.setNodeLock]
    · simp_all
  · simp_all

theorem doMoveStep_append {s : AState ρ} {p : Pid} {b : BatchId} {rest : List BatchId} {acc buf : List ρ}
    (h : s.coll p = .moving b rest acc buf [.append, .remove]) :
    doMoveStep (absOps ρ) s p =
      ({ s with cons := some (consRows s ++ buf), moved := s.moved ++ [(p, b, buf)] } : AState ρ).setColl p
        (.moving b rest acc buf [.remove]) := by
  simp [doMoveStep, h, settle, absOps, flags_eq, consRows]

theorem doMoveStep_remove {s : AState ρ} {p : Pid} {b : BatchId} {rest : List BatchId} {acc buf : List ρ}
    (h : s.coll p = .moving b rest acc buf [.remove]) :
    doMoveStep (absOps ρ) s p =
      match s.node b with
      | none => raiseOut s p b
      | some _ => (({ (s.setNode b none) with dir := s.dir.erase b } : AState ρ).setNodeLock b none).setColl p
          (.collecting rest (acc ++ buf)) := by
  cases hn : s.node b <;> simp [doMoveStep, h, hn, settle, finishMove, flags_eq]

theorem doEnd_eq (s : AState ρ) (p : Pid) :
    doEnd s p =
      match s.coll p with
      | .collecting [] acc =>
        { (s.setColl p .idle) with consLock := none, returned := s.returned ++ [(p, .rows acc)] }
      | _ => s := by
  unfold doEnd
  split <;> simp_all [flags_eq]

theorem doCancel_eq (s : AState ρ) (p : Pid) (r : ρ) :
    doCancel (absOps ρ) s p r =
      match s.coll p with
      | .idle =>
        if s.consLock = none then
          { s with cons := some (consRows s ++ [r]), canceled := s.canceled ++ [(p, r)] }
        else s
      | _ => s := by
  unfold doCancel
  split <;> simp_all [lockFree, flags_eq, absOps, consRows]

variable {L : ρ → Prop} {faulty : Prop}

def Op.rowsIn (L : ρ → Prop) : Op ρ → Prop
  | .append _ _ r => L r
  | .cancelAppend _ r => L r
  | _ => True

/-- an exception can leave `_move_results` of batch `b` in collector `p`: it is about to lock that file,
    or inside the section -/
def Raising (s : AState ρ) (p : Pid) (b : BatchId) : Prop :=
  (∃ rest acc, s.coll p = .collecting (b :: rest) acc ∧ s.nodeLock b = none) ∨
    ∃ rest acc buf pc, s.coll p = .moving b rest acc buf pc

theorem Raising.not_idle {s : AState ρ} {p : Pid} {b : BatchId} (h : Raising s p b) : s.coll p ≠ .idle := by
  rcases h with ⟨_, _, h, _⟩ | ⟨_, _, _, _, h⟩ <;> simp [h]

/-- The steps of the row-level model that are not stutters, one constructor per branch, with the guard
    and the successor state (`step_sound`).  The rows that come in satisfy `L`.  An exception leaves a
    collection when the node file is missing or, like the last three transitions, when `faulty`: these are
    what `Model/ResultsFault.lean` adds (an injected `OSError`; the append-open of the consolidated file
    succeeded and nothing was written; death right after `os.remove`; stale markers broken). -/
inductive Step (L : ρ → Prop) (faulty : Prop) : AState ρ → AState ρ → Prop
  | append {s w b r} (hr : L r) (hl : s.nodeLock b = none) :
      Step L faulty s { (s.setNode b (some ((s.node b).getD [] ++ [r]))) with
        dir := if (s.node b).isSome then s.dir else s.dir ++ [b]
        written := s.written ++ [(w, b, r)] }
  | begin {s p snap} (hc : s.coll p = .idle) (hl : s.consLock = none) (hs : snap.Perm s.dir) :
      Step L faulty s { (s.setColl p (.collecting snap [])) with consLock := some p }
  | lock {s p b rest acc f} (hc : s.coll p = .collecting (b :: rest) acc) (hl : s.nodeLock b = none)
      (hf : s.node b = some f) :
      Step L faulty s ((s.setNodeLock b (some p)).setColl p (.moving b rest acc f [.append, .remove]))
  | copy {s p b rest acc buf} (hc : s.coll p = .moving b rest acc buf [.append, .remove]) :
      Step L faulty s
        (({ s with cons := some (consRows s ++ buf), moved := s.moved ++ [(p, b, buf)] } : AState ρ).setColl p
          (.moving b rest acc buf [.remove]))
  | remove {s p b rest acc buf f} (hc : s.coll p = .moving b rest acc buf [.remove]) (hf : s.node b = some f) :
      Step L faulty s
        ((({ (s.setNode b none) with dir := s.dir.erase b } : AState ρ).setNodeLock b none).setColl p
          (.collecting rest (acc ++ buf)))
  | finish {s p acc} (hc : s.coll p = .collecting [] acc) :
      Step L faulty s { (s.setColl p .idle) with consLock := none, returned := s.returned ++ [(p, .rows acc)] }
  | cancel {s p r} (hr : L r) (hc : s.coll p = .idle) (hl : s.consLock = none) :
      Step L faulty s { s with cons := some (consRows s ++ [r]), canceled := s.canceled ++ [(p, r)] }
  | raise {s p b} (hc : Raising s p b) (hn : faulty ∨ s.node b = none) :
      Step L faulty s { ((s.setNodeLock b none).setColl p .idle) with
        consLock := none, returned := s.returned ++ [(p, .raised)] }
  | opened {s} (hF : faulty) : Step L faulty s { s with cons := some (consRows s) }
  | dieRemoved {s p b rest acc buf f} (hF : faulty) (hc : s.coll p = .moving b rest acc buf [.remove])
      (hf : s.node b = some f) :
      Step L faulty s
        (({ (s.setNode b none) with dir := s.dir.erase b } : AState ρ).setColl p (.moving b rest acc buf []))
  | breakLocks {s} (hF : faulty) (dead : List Pid) :
      Step L faulty s { s with
        consLock := if s.consLock.any (· ∈ dead) then none else s.consLock
        nodeLock := fun b => if (s.nodeLock b).any (· ∈ dead) then none else s.nodeLock b
        coll := fun p => if p ∈ dead then .idle else s.coll p }

theorem Step.raiseOut {s : AState ρ} {p : Pid} {b : BatchId} (hc : Raising s p b) (hn : faulty ∨ s.node b = none) :
    Step L faulty s (raiseOut s p b) :=
  raiseOut_eq s p b ▸ .raise hc hn

/-- a collector inside `_move_results` is parked before the copy, before the removal, or (dead) after it -/
def PcOk (s : AState ρ) : Prop :=
  ∀ p b rest acc buf pc, s.coll p = .moving b rest acc buf pc →
    pc = [.append, .remove] ∨ pc = [.remove] ∨ pc = []

theorem step_sound {s : AState ρ} (hpc : PcOk s) (op : Op ρ) (hop : op.rowsIn L) :
    step (absOps ρ) s op = s ∨ Step L faulty s (step (absOps ρ) s op) := by
  cases op with
  | append w b r =>
    simp only [step, doAppend_eq]
    split
    · exact .inr (.append hop ‹_›)
    · exact .inl rfl
  | beginCollect p snap =>
    simp only [step, doBegin_eq]
    split
    · split
      · next hc h => exact .inr (.begin hc h.1 h.2)
      · exact .inl rfl
    · exact .inl rfl
  | lockFile p =>
    simp only [step, doLockFile_eq]
    split
    · next b rest acc hc =>
      split
      · next hl =>
        split
        · next hn => exact .inr (.raiseOut (.inl ⟨rest, acc, hc, hl⟩) (.inr hn))
        · next f hf => exact .inr (.lock hc hl hf)
      · exact .inl rfl
    · exact .inl rfl
  | moveStep p =>
    simp only [step]
    cases hc : s.coll p with
    | idle => exact .inl (by simp [doMoveStep, hc])
    | collecting snap acc => exact .inl (by simp [doMoveStep, hc])
    | moving b rest acc buf pc =>
      rcases hpc _ _ _ _ _ _ hc with rfl | rfl | rfl
      · rw [doMoveStep_append hc]
        exact .inr (.copy hc)
      · rw [doMoveStep_remove hc]
        split
        · next hn => exact .inr (.raiseOut (.inr ⟨rest, acc, buf, _, hc⟩) (.inr hn))
        · next f hf => exact .inr (.remove hc hf)
      · exact .inl (by simp [doMoveStep, hc])
  | endCollect p =>
    simp only [step, doEnd_eq]
    split
    · next acc hc => exact .inr (.finish hc)
    · exact .inl rfl
  | cancelAppend p r =>
    simp only [step, doCancel_eq]
    split
    · split
      · next hc hl => exact .inr (.cancel hop hc hl)
      · exact .inl rfl
    · exact .inl rfl

theorem run_inv {P : AState ρ → Prop} (hpc : ∀ s, P s → PcOk s)
    (hP : ∀ s s', P s → Step L False s s' → P s') {s : AState ρ} (h : P s) (ops : List (Op ρ))
    (hops : ∀ op ∈ ops, op.rowsIn L) : P (run (absOps ρ) s ops) :=
  List.foldlRecOn (motive := P) ops _ h fun s h op hop =>
    (step_sound (hpc s h) op (hops op hop)).elim (fun e => e.symm ▸ h) (hP _ _ h)

theorem Op.rowsIn_true (op : Op ρ) : op.rowsIn (fun _ => True) := by
  cases op <;> trivial

/-- exactly the holder of the consolidated lock is inside a collection -/
def Excl (s : AState ρ) : Prop := ∀ p : Pid, s.consLock = some p ↔ s.coll p ≠ .idle

theorem Excl.others_idle {s : AState ρ} (h : Excl s) {p q : Pid} (hp : s.coll p ≠ .idle) (hq : q ≠ p) :
    s.coll q = .idle := by
  have := h p
  have := h q
  grind only

theorem Excl.all_idle {s : AState ρ} (h : Excl s) (hl : s.consLock = none) (q : Pid) : s.coll q = .idle := by
  have := h q
  grind only

theorem Excl.holder {s : AState ρ} (h : Excl s) {p : Pid} {c : Coll ρ} (hc : s.coll p = c)
    (hne : c ≠ .idle := by simp) : s.consLock = some p :=
  (h p).2 (hc ▸ hne)

theorem excl_step {s s' : AState ρ} (h : Excl s) (t : Step L faulty s s') : Excl s' := by
  intro q
  have hq := h q
  have ho := @Excl.others_idle _ _ h
  cases t with
  | append | cancel | opened => exact hq
  | begin hc hl =>
    have := h.all_idle hl q
    sets
    grind only
  | raise hc =>
    have := hc.not_idle
    sets
    grind only
  | breakLocks => grind
  | _ =>
    sets
    grind only

structure Dirs (s : AState ρ) : Prop where
  dir_nodup : s.dir.Nodup
  dir_iff : ∀ b : BatchId, b ∈ s.dir ↔ s.node b ≠ none

theorem Dirs.erase {s : AState ρ} (h : Dirs s) (b : BatchId) :
    Dirs ({ (s.setNode b none) with dir := s.dir.erase b } : AState ρ) where
  dir_nodup := h.dir_nodup.erase b
  dir_iff c := by
    have := h.dir_iff c
    sets
    grind [List.Nodup.mem_erase_iff h.dir_nodup]

theorem dirs_step {s s' : AState ρ} (h : Dirs s) (t : Step L faulty s s') : Dirs s' := by
  cases t with
  | @append _ b =>
    constructor
    · show (if (s.node b).isSome then s.dir else s.dir ++ [b]).Nodup
      have := h.dir_iff b
      have := h.dir_nodup
      cases hn : s.node b <;> simp_all [List.nodup_append]
      grind only
    · intro c
      have := h.dir_iff c
      sets
      grind
  | remove | dieRemoved => exact ⟨(h.erase _).1, (h.erase _).2⟩
  | _ => exact ⟨h.1, h.2⟩

theorem nodeRows_append {s : AState ρ} (h : Dirs s) (b : BatchId) (r : ρ) (w : Wid) :
    (nodeRows ({ (s.setNode b (some ((s.node b).getD [] ++ [r]))) with
        dir := if (s.node b).isSome then s.dir else s.dir ++ [b]
        written := s.written ++ [(w, b, r)] } : AState ρ)).Perm (nodeRows s ++ [r]) := by
  cases hnb : s.node b with
  | none =>
    have hb : b ∉ s.dir := by simp [h.dir_iff, hnb]
    have : ∀ c ∈ s.dir, ((if c = b then some [r] else s.node c).getD [] : List ρ) = (s.node c).getD [] :=
      fun c hc => by rw [if_neg (fun e : c = b => hb (e ▸ hc))]
    simp [nodeRows, State.setNode, flatMap_congr_mem this]
  | some f =>
    simpa [nodeRows, State.setNode, hnb] using flatMap_update_perm h.dir_nodup ((h.dir_iff b).2 (by simp [hnb]))
      (g := fun c => (s.node c).getD []) (g' := fun c => (if c = b then some (f ++ [r]) else s.node c).getD [])
      (fun c hc => by simp [hc]) (by simp [hnb])

theorem nodeRows_erase {s : AState ρ} (h : Dirs s) {b : BatchId} {f : List ρ} (hf : s.node b = some f) :
    (nodeRows s).Perm (f ++ nodeRows ({ (s.setNode b none) with dir := s.dir.erase b } : AState ρ)) := by
  have := flatMap_erase_perm (fun c => (s.node c).getD []) ((h.dir_iff b).2 (by simp [hf]))
  rw [← flatMap_erase_congr h.dir_nodup
    (g' := fun c => ((if c = b then none else s.node c) : Option (List ρ)).getD []) (by intro c hc; simp [hc])] at this
  simpa [hf, nodeRows, State.setNode] using this

structure Good (s : AState ρ) : Prop where
  dir_nodup : s.dir.Nodup
  dir_iff : ∀ b : BatchId, b ∈ s.dir ↔ s.node b ≠ none
  cons_lock : ∀ p : Pid, s.consLock = some p ↔ s.coll p ≠ .idle
  node_lock : ∀ (b : BatchId) (p : Pid), s.nodeLock b = some p ↔
      ∃ rest acc buf pc, s.coll p = .moving b rest acc buf pc
  snap_ok : ∀ (p : Pid) (snap : List BatchId) (acc : List ρ), s.coll p = .collecting snap acc →
      snap.Nodup ∧ ∀ b ∈ snap, b ∈ s.dir
  moving_ok : ∀ (p : Pid) (b : BatchId) (rest : List BatchId) (acc buf : List ρ) (pc : List MoveAct),
      s.coll p = .moving b rest acc buf pc →
      (b :: rest).Nodup ∧ (∀ c ∈ rest, c ∈ s.dir) ∧ s.node b = some buf ∧
        (pc = [.append, .remove] ∨ pc = [.remove])
  conserve : (writtenRows s ++ canceledRows s ++ (active s).dup).Perm (consRows s ++ nodeRows s)
  consolidated : (consRows s).Perm (canceledRows s ++ movedRows s)
  reported : (movedRows s).Perm (returnedRows s ++ (active s).held)
  moved_attr : ∀ x ∈ s.moved, ∀ r ∈ x.2.2, ∃ w, (w, x.2.1, r) ∈ s.written
  no_raise : ∀ x ∈ s.returned, x.2 ≠ .raised
  attributed : ∀ (b : BatchId) (f : List ρ) (r : ρ), s.node b = some f → r ∈ f → ∃ w, (w, b, r) ∈ s.written

theorem good_init (created : Bool) : Good (init (absOps ρ) created) := by
  constructor <;> cases created <;>
    simp [init, absOps, writtenRows, canceledRows, returnedRows, movedRows, active, nodeRows, consRows, Coll.dup,
      Coll.held]

theorem Good.dirs {s : AState ρ} (h : Good s) : Dirs s := ⟨h.dir_nodup, h.dir_iff⟩

theorem Good.excl {s : AState ρ} (h : Good s) : Excl s := h.cons_lock

theorem Good.pcOk {s : AState ρ} (h : Good s) : PcOk s := fun p b rest acc buf pc hc => by
  have := (h.moving_ok p b rest acc buf pc hc).2.2.2
  grind only

/-- the file a collection is about to move, or is moving, exists: `FileNotFoundError` cannot happen -/
theorem Good.not_missing {s : AState ρ} (h : Good s) {p : Pid} {b : BatchId} (hc : Raising s p b) :
    s.node b ≠ none := by
  rcases hc with ⟨rest, acc, hc, -⟩ | ⟨rest, acc, buf, pc, hc⟩
  · exact (h.dir_iff _).1 ((h.snap_ok _ _ _ hc).2 _ (by simp))
  · simp [(h.moving_ok _ _ _ _ _ _ hc).2.2.1]

section
attribute [local simp] writtenRows canceledRows movedRows returnedRows consRows nodeRows active Coll.dup Coll.held
  copied removed State.setColl State.setNode State.setNodeLock

theorem good_step {s s' : AState ρ} (h : Good s) (t : Step L False s s') : Good s' := by
  have hd := dirs_step h.dirs t
  have he := excl_step h.excl t
  have hoth := @Excl.others_idle _ _ h.excl
  cases t with
  | opened hF | dieRemoved hF | breakLocks hF => exact hF.elim
  | raise hc hn => exact absurd (hn.resolve_left id) (h.not_missing hc)
  | @append w b r hr hl =>
    have hnm : ∀ (p : Pid) rest acc buf pc, s.coll p ≠ .moving b rest acc buf pc := by
      intro p rest acc buf pc hc
      simpa [hl] using (h.node_lock b p).2 ⟨rest, acc, buf, pc, hc⟩
    exact { h with
      dir_nodup := hd.1, dir_iff := hd.2
      snap_ok := fun p snap acc hc => by
        have := h.snap_ok p snap acc hc
        show snap.Nodup ∧ ∀ b' ∈ snap, b' ∈ (if (s.node b).isSome then s.dir else s.dir ++ [b])
        grind
      moving_ok := fun p b' rest acc buf pc hc => by
        have := h.moving_ok p b' rest acc buf pc hc
        have : b' ≠ b := fun e => hnm p rest acc buf pc (e ▸ hc)
        show _ ∧ (∀ c ∈ rest, c ∈ (if (s.node b).isSome then s.dir else s.dir ++ [b])) ∧ _
        sets
        grind
      conserve := by
        have h1 := h.conserve
        have h2 := nodeRows_append h.dirs b r w
        simp only [writtenRows, canceledRows, consRows, active, State.setNode, List.map_append, List.map_cons,
          List.map_nil] at h1 h2 ⊢
        by_count
      moved_attr := fun x hx r' hr' => by
        obtain ⟨w', hw'⟩ := h.moved_attr x hx r' hr'
        exact ⟨w', List.mem_append_left _ hw'⟩
      attributed := fun b' f r' hf hr => by
        have := h.attributed b'
        sets at hf ⊢
        cases hnb : s.node b <;> grind }
  | @begin p snap hc hl hs =>
    have hall := h.excl.all_idle hl
    exact { h with
      cons_lock := he
      node_lock := fun b q => by
        have := h.node_lock b q
        have := hall q
        sets
        grind only
      snap_ok := fun q snap' acc hc' => by
        sets at hc'
        split at hc'
        · cases hc'
          exact ⟨hs.nodup_iff.2 h.dir_nodup, fun b => hs.mem_iff.1⟩
        · exact h.snap_ok q snap' acc hc'
      moving_ok := fun q b rest acc buf pc hc' => by
        have := hall q
        sets at hc'
        grind only
      conserve := by simpa [hl] using h.conserve
      reported := by simpa [hl] using h.reported }
  | @lock p b rest acc f hc hl hf =>
    have hcl := h.excl.holder hc
    have hsnap := h.snap_ok p _ _ hc
    exact { h with
      cons_lock := he
      node_lock := fun b' q => by
        have := h.node_lock b' q
        have := @hoth p q
        sets
        grind only
      snap_ok := fun q snap' acc' hc' => by
        have := @hoth p q
        sets at hc'
        grind only
      moving_ok := fun q b' rest' acc' buf' pc' hc' => by
        have := @hoth p q
        sets at hc' ⊢
        grind
      conserve := by simpa [hcl, hc] using h.conserve
      reported := by simpa [hcl, hc] using h.reported }
  | @copy p b rest acc buf hc =>
    have hcl := h.excl.holder hc
    obtain ⟨hnd, hrest, hnode, -⟩ := h.moving_ok p b rest acc buf _ hc
    exact { h with
      cons_lock := he
      node_lock := fun b' q => by
        have := h.node_lock b' q
        have := @hoth p q
        sets
        grind only
      snap_ok := fun q snap' acc' hc' => by
        have := @hoth p q
        sets at hc'
        grind only
      moving_ok := fun q b' rest' acc' buf' pc' hc' => by
        have := @hoth p q
        sets at hc' ⊢
        grind only
      conserve := by
        have h1 := h.conserve
        simp [hcl, hc] at h1 ⊢
        by_count
      consolidated := by
        have h1 := h.consolidated
        simp at h1 ⊢
        by_count
      reported := by
        have h1 := h.reported
        simp [hcl, hc] at h1 ⊢
        by_count
      moved_attr := fun x hx r hr => by
        rcases List.mem_append.1 hx with hx | hx
        · exact h.moved_attr x hx r hr
        · cases List.mem_singleton.1 hx
          exact h.attributed b buf r hnode hr }
  | @remove p b rest acc buf f hc hf =>
    have hcl := h.excl.holder hc
    obtain ⟨hnd, hrest, hnode, -⟩ := h.moving_ok p b rest acc buf _ hc
    obtain rfl : buf = f := Option.some.inj (hnode.symm.trans hf)
    rw [List.nodup_cons] at hnd
    exact { h with
      dir_nodup := hd.1, dir_iff := hd.2, cons_lock := he
      node_lock := fun b' q => by
        have := h.node_lock b' q
        have := @hoth p q
        sets
        grind only
      snap_ok := fun q snap' acc' hc' => by
        have := @hoth p q
        sets at hc' ⊢
        grind
      moving_ok := fun q b' rest' acc' buf' pc' hc' => by
        have := @hoth p q
        sets at hc'
        grind only
      conserve := by
        have h1 := h.conserve
        have h2 := nodeRows_erase h.dirs hf
        simp [hcl, hc] at h1 h2 ⊢
        by_count
      reported := by simpa [hcl, hc] using h.reported
      attributed := fun b' f r hf hr => by
        have := h.attributed b' f r
        sets at hf ⊢
        grind }
  | @finish p acc hc =>
    have hcl := h.excl.holder hc
    exact { h with
      cons_lock := he
      node_lock := fun b' q => by
        have := h.node_lock b' q
        have := @hoth p q
        sets
        grind only
      snap_ok := fun q snap' acc' hc' => by
        have := @hoth p q
        sets at hc'
        grind only
      moving_ok := fun q b' rest' acc' buf' pc' hc' => by
        have := @hoth p q
        sets at hc'
        grind only
      conserve := by simpa [hcl, hc] using h.conserve
      reported := by simpa [hcl, hc, Ret.toRows] using h.reported
      no_raise := fun x hx => by
        rcases List.mem_append.1 hx with hx | hx
        · exact h.no_raise x hx
        · cases List.mem_singleton.1 hx
          simp }
  | @cancel p r hr hc hl =>
    exact { h with
      conserve := by
        have h1 := h.conserve
        simp [hl] at h1 ⊢
        by_count
      consolidated := by
        have h1 := h.consolidated
        simp at h1 ⊢
        by_count }
end

theorem good_run {s : AState ρ} (h : Good s) (ops : List (Op ρ)) : Good (run (absOps ρ) s ops) :=
  run_inv (fun _ => Good.pcOk) (fun _ _ => good_step) h ops fun op _ => op.rowsIn_true

theorem Excl.unique {s : AState ρ} (h : Excl s) {p q : Pid} (hp : s.coll p ≠ .idle) (hq : s.coll q ≠ .idle) :
    p = q :=
  Classical.byContradiction fun hne => hq (h.others_idle hp (Ne.symm hne))

theorem active_moving {s : AState ρ} {b : BatchId} {rest : List BatchId} {acc buf : List ρ} {pc : List MoveAct}
    (ha : active s = .moving b rest acc buf pc) : ∃ p, s.coll p = .moving b rest acc buf pc := by
  unfold active at ha
  split at ha
  · exact ⟨_, ha⟩
  · cases ha

theorem Good.nodeLock_unique {s : AState ρ} (h : Good s) {b c : BatchId} {p : Pid} (hb : s.nodeLock b = some p)
    (hc : s.nodeLock c = some p) : b = c := by
  obtain ⟨_, _, _, _, e1⟩ := (h.node_lock b p).1 hb
  obtain ⟨_, _, _, _, e2⟩ := (h.node_lock c p).1 hc
  cases e1.symm.trans e2
  rfl

theorem Good.consLock_of_nodeLock {s : AState ρ} (h : Good s) {b : BatchId} {p : Pid} (hb : s.nodeLock b = some p) :
    s.consLock = some p := by
  obtain ⟨_, _, _, _, e⟩ := (h.node_lock b p).1 hb
  exact (h.cons_lock p).2 (by simp [e])

theorem Good.never_blocked {s : AState ρ} (h : Good s) {p : Pid} {b : BatchId} {rest : List BatchId} {acc : List ρ}
    (hc : s.coll p = .collecting (b :: rest) acc) : s.nodeLock b = none ∧ (s.node b).isSome := by
  have hl : s.nodeLock b = none := by
    cases hn : s.nodeLock b with
    | none => rfl
    | some q =>
      obtain ⟨_, _, _, _, e⟩ := (h.node_lock b q).1 hn
      have := h.excl.unique (p := p) (q := q) (by simp [hc]) (by simp [e])
      simp [← this, hc] at e
  exact ⟨hl, Option.isSome_iff_ne_none.2 (h.not_missing (.inl ⟨rest, acc, hc, hl⟩))⟩

theorem Good.dup_nil {s : AState ρ} (h : Good s) (hfree : ∀ b : BatchId, s.nodeLock b = none) :
    (active s).dup = [] := by
  cases ha : active s with
  | moving b rest acc buf pc =>
    obtain ⟨p, hp⟩ := active_moving ha
    simpa [hfree b] using (h.node_lock b p).2 ⟨rest, acc, buf, pc, hp⟩
  | _ => rfl

theorem Good.inFlight_nil {s : AState ρ} (h : Good s) : (active s).inFlight = [] := by
  cases ha : active s with
  | moving b rest acc buf pc =>
    obtain ⟨p, hp⟩ := active_moving ha
    rcases (h.moving_ok p b rest acc buf pc hp).2.2.2 with rfl | rfl <;> rfl
  | _ => rfl

theorem Good.moved_from {s : AState ρ} (h : Good s) {r : ρ} (hr : r ∈ movedRows s) : ∃ w b, (w, b, r) ∈ s.written := by
  obtain ⟨x, hx, hrx⟩ := List.mem_flatMap.1 hr
  obtain ⟨w, hw⟩ := h.moved_attr x hx r hrx
  exact ⟨w, x.2.1, hw⟩

theorem Good.cons_from {s : AState ρ} (h : Good s) {r : ρ} (hr : r ∈ consRows s) :
    r ∈ canceledRows s ∨ ∃ w b, (w, b, r) ∈ s.written :=
  (List.mem_append.1 (h.consolidated.mem_iff.1 hr)).imp_right h.moved_from

theorem Good.returned_from {s : AState ρ} (h : Good s) {r : ρ} (hr : r ∈ returnedRows s) :
    ∃ w b, (w, b, r) ∈ s.written :=
  h.moved_from (h.reported.mem_iff.2 (List.mem_append_left _ hr))

structure RowsOk (L : ρ → Prop) (s : AState ρ) : Prop where
  node : ∀ (b : BatchId) (f : List ρ), s.node b = some f → ∀ r ∈ f, L r
  cons : ∀ r ∈ consRows s, L r
  buf : ∀ (p : Pid) (b : BatchId) (rest : List BatchId) (acc buf : List ρ) (pc : List MoveAct),
      s.coll p = .moving b rest acc buf pc → ∀ r ∈ buf, L r

theorem rowsOk_init (created : Bool) : RowsOk L (init (absOps ρ) created) := by
  constructor <;> cases created <;> simp [init, absOps, consRows]

theorem rowsOk_step {s s' : AState ρ} (h : RowsOk L s) (t : Step L faulty s s') : RowsOk L s' where
  node b' f' hf' r' hr' := by
    have := h.node b' f'
    cases t with
    | @append _ b _ hr hl =>
      have := h.node b
      sets at hf'
      cases hn : s.node b <;> grind
    | remove | dieRemoved =>
      sets at hf'
      grind only
    | _ => exact this hf' r' hr'
  cons r' hr' := by
    have hcons : r' ∈ s.cons.getD [] → L r' := h.cons r'
    cases t with
    | copy hc =>
      have := h.buf _ _ _ _ _ _ hc r'
      simp [consRows, State.setColl] at hr'
      grind only
    | cancel hr =>
      simp [consRows] at hr'
      grind only
    | opened => exact hcons (by simpa [consRows] using hr')
    | _ => exact hcons hr'
  buf q b' rest' acc' buf' pc' hc' r' hr' := by
    have := h.buf q b'
    cases t with
    | append | cancel | opened => exact this _ _ _ _ hc' r' hr'
    | lock hc hl hf =>
      have := h.node _ _ hf
      sets at hc'
      grind only
    | _ =>
      sets at hc'
      grind only

theorem rowsOk_run {s : AState ρ} (hs : Good s) (hl : RowsOk L s) (ops : List (Op ρ))
    (hops : ∀ op ∈ ops, op.rowsIn L) : RowsOk L (run (absOps ρ) s ops) :=
  (run_inv (P := fun s => Good s ∧ RowsOk L s) (fun _ h => h.1.pcOk)
    (fun _ _ h t => ⟨good_step h.1 t, rowsOk_step h.2 t⟩) ⟨hs, hl⟩ ops hops).2

end Protocol
/-! ## The byte-level model refines the row-level model -/

/-- the byte-level state that a row-level state stands for -/
def renderState (s : State Row (List Row)) : State Row (List Char) where
  cons := s.cons.map renderFile
  consLock := s.consLock
  node := fun b => (s.node b).map renderFile
  dir := s.dir
  nodeLock := s.nodeLock
  coll := s.coll
  written := s.written
  canceled := s.canceled
  moved := s.moved
  returned := s.returned

theorem renderFile_append (rows more : List Row) :
    renderFile (rows ++ more) = renderFile rows ++ more.flatMap (fun r => renderRow r ++ ['\n']) := by
  simp [renderFile]

theorem renderFile_ne_nil (rows : List Row) : renderFile rows ≠ [] := by
  simp [renderFile]

theorem headerCond_eq (pos : Nat) : headerCond pos = (pos == 0) := rfl

theorem writes_eq : headerWrites = [.header, .nl] ∧ rowWrites = [.text, .nl] ∧ createWrites = [.header, .nl] :=
  ⟨rfl, rfl, rfl⟩

theorem processedHeader_eq :
    (∀ pos, processedHeaderCond pos = (pos == 0)) ∧ processedHeaderWrites = [.header, .nl] :=
  ⟨fun _ => rfl, rfl⟩

theorem byte_create : byteOps.create = renderFile ((absOps Row).create) := by
  simp [byteOps, absOps, writeToks, writes_eq, tokBytes, renderFile]

theorem byte_appendRow (f : Option (List Row)) (r : Row) :
    byteOps.appendRow (f.map renderFile) r = renderFile ((absOps Row).appendRow f r) := by
  cases f with
  | none =>
    simp [byteOps, absOps, openedBytes, flags_eq, headerCond_eq, writeToks, writes_eq, tokBytes, renderFile]
  | some rows =>
    simp [byteOps, absOps, openedBytes, flags_eq, headerCond_eq, writeToks, writes_eq, tokBytes,
      renderFile_append, renderFile_ne_nil rows]

theorem byte_appendRows (f : Option (List Row)) (rows : List Row) :
    byteOps.appendRows (f.map renderFile) rows = renderFile ((absOps Row).appendRows f rows) := by
  cases f with
  | none =>
    simp [byteOps, absOps, openedBytes, flags_eq, processedHeader_eq, writeToks, tokBytes, renderFile]
  | some old =>
    simp [byteOps, absOps, openedBytes, flags_eq, processedHeader_eq, writeToks, tokBytes, renderFile_append,
      renderFile_ne_nil old]

theorem byte_read (f : List Row) (h : ∀ r ∈ f, r.Legal) :
    byteOps.read (renderFile f) = (absOps Row).read f := by
  simp [byteOps, absOps, parse_render f h]

/-- every row in a node file is legal -/
def LegalFiles (s : State Row (List Row)) : Prop :=
  ∀ (b : BatchId) (f : List Row), s.node b = some f → ∀ r ∈ f, r.Legal

def Op.Legal : Op Row → Prop
  | .append _ _ r => r.Legal
  | .cancelAppend _ r => r.Legal
  | _ => True

theorem Op.Legal.rowsIn {op : Op Row} (h : op.Legal) : op.rowsIn Row.Legal := by
  cases op <;> exact h

theorem render_setColl (s : State Row (List Row)) (p : Pid) (c : Coll Row) :
    renderState (s.setColl p c) = (renderState s).setColl p c := rfl

theorem render_setNodeLock (s : State Row (List Row)) (b : BatchId) (h : Option Pid) :
    renderState (s.setNodeLock b h) = (renderState s).setNodeLock b h := rfl

theorem render_setNode (s : State Row (List Row)) (b : BatchId) (f : Option (List Row)) :
    renderState (s.setNode b f) = (renderState s).setNode b (f.map renderFile) := by
  simp only [renderState, State.setNode, State.mk.injEq, true_and, and_true]
  funext c
  split <;> rfl

theorem render_raiseOut (s : State Row (List Row)) (p : Pid) (b : BatchId) :
    renderState (raiseOut s p b) = raiseOut (renderState s) p b := by
  simp only [raiseOut]
  split <;> rfl

theorem render_finishMove (s : State Row (List Row)) (p : Pid) (b : BatchId) (rest : List BatchId)
    (acc buf : List Row) :
    renderState (finishMove s p b rest acc buf) = finishMove (renderState s) p b rest acc buf := by
  simp only [finishMove]
  split <;> rfl

theorem render_settle (s : State Row (List Row)) (hl : LegalFiles s) (p : Pid) (b : BatchId)
    (rest : List BatchId) (acc buf : List Row) (pc : List MoveAct) :
    settle byteOps (renderState s) p b rest acc buf pc =
      renderState (settle (absOps Row) s p b rest acc buf pc) := by
  induction pc generalizing buf with
  | nil => simp [settle, render_finishMove]
  | cons a pc ih =>
    cases a with
    | read =>
      simp only [settle]
      cases hn : s.node b with
      | none =>
        have : (renderState s).node b = none := by simp [renderState, hn]
        simp only [this, render_raiseOut]
      | some f =>
        have : (renderState s).node b = some (renderFile f) := by simp [renderState, hn]
        simp only [this, byte_read f (hl b f hn)]
        exact ih f
    | append => simp [settle, render_setColl]
    | remove => simp [settle, render_setColl]

theorem render_step (s : State Row (List Row)) (hl : LegalFiles s) (op : Op Row) :
    step byteOps (renderState s) op = renderState (step (absOps Row) s op) := by
  have ecoll : (renderState s).coll = s.coll := rfl
  have elock : (renderState s).nodeLock = s.nodeLock := rfl
  have econs : (renderState s).cons = s.cons.map renderFile := rfl
  have enode : ∀ b, (renderState s).node b = (s.node b).map renderFile := fun _ => rfl
  cases op with
  | append w b r =>
    simp only [step, doAppend]
    rw [elock, enode]
    split
    · simp only [byte_appendRow, Option.isSome_map]
      simp only [renderState, State.setNode, State.mk.injEq, true_and, and_true]
      funext c
      split <;> rfl
    · rfl
  | beginCollect p snap =>
    simp only [step, doBegin]
    rw [ecoll]
    split
    · show (if lockFree processUnderLock s.consLock && snap.isPerm (globbed s) then _ else _) = _
      split <;> rfl
    · rfl
  | lockFile p =>
    simp only [step, doLockFile]
    rw [ecoll]
    split
    · rw [elock]
      split
      · split
        · rw [← render_setNodeLock]
          exact render_settle (s.setNodeLock _ _) hl ..
        · exact render_settle _ hl ..
      · rfl
    · rfl
  | moveStep p =>
    simp only [step, doMoveStep]
    rw [ecoll]
    split
    · next b rest acc buf pc hc =>
      rw [econs, byte_appendRows]
      exact render_settle
        { s with cons := some ((absOps Row).appendRows s.cons buf), moved := s.moved ++ [(p, b, buf)] }
        hl p b rest acc buf pc
    · next b rest acc buf pc hc =>
      rw [enode]
      cases hn : s.node b with
      | none => simp only [Option.map_none, render_raiseOut]
      | some f =>
        have e : (renderState s).setNode b none = renderState (s.setNode b none) := (render_setNode s b none).symm
        simp only [Option.map_some, e]
        refine render_settle { (s.setNode b none) with dir := s.dir.erase b } (fun b' f' hf' => ?_) p b rest acc buf pc
        simp only [State.setNode] at hf'
        split at hf'
        · cases hf'
        · exact hl b' f' hf'
    · exact render_settle _ hl ..
    · rfl
  | endCollect p =>
    simp only [step, doEnd]
    rw [ecoll]
    split <;> rfl
  | cancelAppend p r =>
    simp only [step, doCancel]
    rw [ecoll]
    split
    · show (if lockFree appendUnderLock s.consLock then _ else _) = _
      split
      · rw [econs, byte_appendRow s.cons r]
        rfl
      · rfl
    · rfl

theorem render_init (created : Bool) : renderState (init (absOps Row) created) = init byteOps created := by
  cases created <;> simp [renderState, init, byte_create]

theorem render_run {s : State Row (List Row)} (hs : Good s) (hl : RowsOk Row.Legal s) (ops : List (Op Row))
    (hops : ∀ op ∈ ops, op.Legal) :
    run byteOps (renderState s) ops = renderState (run (absOps Row) s ops) := by
  induction ops generalizing s with
  | nil => rfl
  | cons op ops ih =>
    have hops' := fun o ho => hops o (List.mem_cons_of_mem _ ho)
    have hop := (hops op List.mem_cons_self).rowsIn
    simp only [run, List.foldl_cons] at ih ⊢
    rw [render_step s hl.node op]
    rcases step_sound (L := Row.Legal) (faulty := False) hs.pcOk op hop with e | t
    · rw [e]
      exact ih hs hl hops'
    · exact ih (good_step hs t) (rowsOk_step hl t) hops'

end Jade.Results
