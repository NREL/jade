import JadeModel.Basic

/-!
The reference semantics of a configuration (evaluate the dependency graph in topological order with the
jobs' exit codes) and the pure graph lemma behind C03/C04: *local* consistency of the recorded rows —
each row justified by rows of the job's own blockers — forces every row to equal the reference
outcome, on every acyclic graph.  Nothing here mentions schedules, batches, nodes or submitters.
-/

namespace Jade.Ref

structure Outcome where
  canceled : Bool
  rc : Int
  deriving DecidableEq, Repr

def Outcome.bad (o : Outcome) : Bool := o.canceled || o.rc != 0

/-- the configuration as a graph -/
structure Graph where
  n : Nat
  blockers : JobId → List JobId
  flag : JobId → Bool
  rc : JobId → Int

/-- one job's outcome from its blockers' outcomes: canceled iff flagged and some blocker failed or
    was canceled; otherwise it runs and finishes with its exit code -/
def evalJob (g : Graph) (o : JobId → Outcome) (j : JobId) : Outcome :=
  if g.flag j && (g.blockers j).any (fun b => (o b).bad) then ⟨true, 1⟩ else ⟨false, g.rc j⟩

/-- `k` rounds of evaluation (kernel-reducible) -/
def refN (g : Graph) : Nat → JobId → Outcome
  | 0, j => ⟨false, g.rc j⟩
  | k + 1, j => evalJob g (refN g k) j

/-- the reference outcome: `n` rounds suffice on an acyclic graph with `n` jobs -/
def ref (g : Graph) (j : JobId) : Outcome := refN g g.n j

/-- acyclic, with all blockers inside the configuration: a rank function decreasing along edges -/
structure Acyclic (g : Graph) (rank : JobId → Nat) : Prop where
  inside : ∀ j, j < g.n → ∀ b ∈ g.blockers j, b < g.n
  lt : ∀ j, j < g.n → ∀ b ∈ g.blockers j, rank b < rank j
  bound : ∀ j, j < g.n → rank j < g.n

theorem evalJob_congr (g : Graph) (o o' : JobId → Outcome) (j : JobId)
    (h : ∀ b ∈ g.blockers j, o b = o' b) : evalJob g o j = evalJob g o' j := by
  have : (g.blockers j).any (fun b => (o b).bad) = (g.blockers j).any fun b => (o' b).bad := by
    rw [Bool.eq_iff_iff, List.any_eq_true, List.any_eq_true]
    exact exists_congr fun b => and_congr_right fun hb => by rw [h b hb]
  unfold evalJob
  rw [this]

/-- once the number of rounds exceeds the job's rank, further rounds change nothing -/
theorem refN_stable (g : Graph) (rank : JobId → Nat) (ha : Acyclic g rank) (j : JobId) (hj : j < g.n)
    (k k' : Nat) (hk : rank j < k) (hk' : rank j < k') : refN g k j = refN g k' j := by
  induction hr : rank j using Nat.strongRecOn generalizing j k k' with
  | _ r ih =>
    obtain ⟨k, rfl⟩ := Nat.exists_eq_add_one_of_ne_zero (Nat.ne_zero_of_lt hk)
    obtain ⟨k', rfl⟩ := Nat.exists_eq_add_one_of_ne_zero (Nat.ne_zero_of_lt hk')
    refine evalJob_congr g _ _ j fun b hb => ?_
    have := ha.lt j hj b hb
    exact ih (rank b) (by omega) b (ha.inside j hj b hb) k k' (by omega) (by omega) rfl

/-- the reference satisfies the defining equation: it *is* the evaluation in topological order -/
theorem ref_eq (g : Graph) (rank : JobId → Nat) (ha : Acyclic g rank) (j : JobId) (hj : j < g.n) :
    ref g j = evalJob g (ref g) j :=
  refN_stable g rank ha j hj g.n (g.n + 1) (ha.bound j hj) (Nat.lt_succ_of_lt (ha.bound j hj))

/-- any solution of the equation is the reference (uniqueness on acyclic graphs) -/
theorem ref_unique (g : Graph) (rank : JobId → Nat) (ha : Acyclic g rank) (o : JobId → Outcome)
    (ho : ∀ j, j < g.n → o j = evalJob g o j) : ∀ j, j < g.n → o j = ref g j := by
  intro j
  induction hr : rank j using Nat.strongRecOn generalizing j with
  | _ r ih =>
    intro hj
    rw [ho j hj, ref_eq g rank ha j hj]
    apply evalJob_congr
    intro b hb
    exact ih (rank b) (by have := ha.lt j hj b hb; omega) b rfl (ha.inside j hj b hb)

/-! ### local consistency of recorded rows ⇒ every row is the reference outcome -/

/-- what the system guarantees locally about the rows on disk (`On`) and the started jobs -/
structure Local (g : Graph) (On : JobId → Outcome → Prop) (Started : JobId → Prop) : Prop where
  /-- a finished row carries the job's real exit code and the job was started -/
  finished : ∀ j o, On j o → o.canceled = false → o.rc = g.rc j ∧ Started j
  /-- a canceled row: the job is flagged and some blocker of it has a failed or canceled row -/
  canceled : ∀ j o, On j o → o.canceled = true →
    g.flag j = true ∧ o.rc = 1 ∧ ∃ b ∈ g.blockers j, ∃ o', On b o' ∧ o'.bad = true
  /-- a started flagged job: every blocker has a successful row -/
  started : ∀ j, Started j → g.flag j = true → ∀ b ∈ g.blockers j, ∃ o', On b o' ∧ o'.bad = false

/-- **the graph lemma**: every recorded row equals the reference outcome of its job -/
theorem local_gives_ref (g : Graph) (rank : JobId → Nat) (ha : Acyclic g rank)
    (On : JobId → Outcome → Prop) (Started : JobId → Prop) (hl : Local g On Started) :
    ∀ j, j < g.n → ∀ o, On j o → o = ref g j := by
  intro j
  induction hr : rank j using Nat.strongRecOn generalizing j with
  | _ r ih =>
    intro hj o hon
    have ihb : ∀ b ∈ g.blockers j, ∀ o', On b o' → o' = ref g b := fun b hb o' ho' =>
      ih (rank b) (by have := ha.lt j hj b hb; omega) b rfl (ha.inside j hj b hb) o' ho'
    rw [ref_eq g rank ha j hj, evalJob]
    cases hc : o.canceled with
    | false =>
      obtain ⟨hrc, hst⟩ := hl.finished j o hon hc
      have hnot : (g.flag j && (g.blockers j).any fun b => (ref g b).bad) = false := by
        rw [Bool.and_eq_false_imp, List.any_eq_false]
        intro hf b hb
        obtain ⟨o', ho', hgood⟩ := hl.started j hst hf b hb
        rw [← ihb b hb o' ho', hgood]
        exact Bool.false_ne_true
      rw [hnot]
      cases o; cases hc; cases hrc; rfl
    | true =>
      obtain ⟨hf, hrc, b, hb, o', ho', hbad⟩ := hl.canceled j o hon hc
      have hyes : (g.flag j && (g.blockers j).any fun b => (ref g b).bad) = true := by
        rw [hf, Bool.true_and, List.any_eq_true]
        exact ⟨b, hb, ihb b hb o' ho' ▸ hbad⟩
      rw [hyes]
      cases o; cases hc; cases hrc; rfl

/-- consequently a job never has two different recorded outcomes … -/
theorem local_rows_agree (g : Graph) (rank : JobId → Nat) (ha : Acyclic g rank)
    (On : JobId → Outcome → Prop) (Started : JobId → Prop) (hl : Local g On Started)
    (j : JobId) (hj : j < g.n) (o o' : Outcome) (h : On j o) (h' : On j o') : o = o' := by
  rw [local_gives_ref g rank ha On Started hl j hj o h, local_gives_ref g rank ha On Started hl j hj o' h']

/-- … and a job with a canceled row was never started -/
theorem local_canceled_never_started (g : Graph) (rank : JobId → Nat) (ha : Acyclic g rank)
    (On : JobId → Outcome → Prop) (Started : JobId → Prop) (hl : Local g On Started)
    (j : JobId) (hj : j < g.n) (o : Outcome) (h : On j o) (hc : o.canceled = true) : ¬ Started j := by
  intro hst
  obtain ⟨hf, -, b, hb, o', ho', hbad⟩ := hl.canceled j o h hc
  obtain ⟨o'', ho'', hgood⟩ := hl.started j hst hf b hb
  have := local_rows_agree g rank ha On Started hl b (ha.inside j hj b hb) o' o'' ho' ho''
  rw [this, hgood] at hbad; cases hbad

/-! ### non-vacuity -/

def demo : Graph := { n := 4, blockers := fun j => if j = 1 then [0] else if j = 2 then [1] else if j = 3 then [1] else [],
                      flag := fun j => j = 1 || j = 2, rc := fun j => if j = 0 then 3 else 0 }

example : (List.range 4).map (ref demo) = [⟨false, 3⟩, ⟨true, 1⟩, ⟨true, 1⟩, ⟨false, 0⟩] := by decide
example : Acyclic demo (fun j => j) := by
  refine ⟨?_, ?_, fun j hj => hj⟩ <;> intro j hj b hb <;> simp only [demo] at * <;>
    (repeat' split at hb) <;> simp_all <;> omega

end Jade.Ref
