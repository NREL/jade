import JadeModel.Proofs.ResultsFault

/-!
The byte-level fault model refines the row-level one (`Props/C08Faults.lean`), for histories that start
with the consolidated file created (`ResultsAggregator.create` has run: the normal flow).  Without that
file a failed write / a death after the append-open leaves a 0-byte file, which has no row-level
counterpart (`renderFile []` is the header line): that case is tied by the correspondence suite only.
-/

namespace Jade.Results
open Jade.Gen.Results

/-- the byte-level fault state a row-level fault state stands for -/
def renderX (x : XState Row (List Row)) : XState Row (List Char) :=
  { base := renderState x.base, dead := x.dead, armed := x.armed }

theorem byte_opened_some (rows : List Row) :
    byteOpsX.opened (some (renderFile rows)) = renderFile ((absOpsX Row).opened (some rows)) := by
  simp [byteOpsX, absOpsX, openedBytes, flags_eq]

def OpX.Legal : OpX Row → Prop
  | .base op => op.Legal
  | _ => True

theorem render_disarm (x : XState Row (List Row)) (p : Pid) : renderX (x.disarm p) = (renderX x).disarm p := rfl
theorem render_die (x : XState Row (List Row)) (p : Pid) : renderX (x.die p) = (renderX x).die p := rfl

theorem render_lockFailRead (x : XState Row (List Row)) (p : Pid) :
    lockFailRead (renderX x) p = renderX (lockFailRead x p) := by
  have e1 : (renderX x).base.coll p = x.base.coll p := rfl
  rw [lockFailRead_eq, lockFailRead_eq, e1]
  split
  · next b _ _ _ =>
    have e2 : (renderX x).base.nodeLock b = x.base.nodeLock b := rfl
    rw [e2]
    split
    · simp only [renderX, XState.disarm, render_raiseOut, render_setNodeLock]
    · rfl
  · rfl

theorem render_withCons (s : State Row (List Row)) (c : List Row) :
    renderState { s with cons := some c } = { renderState s with cons := some (renderFile c) } := rfl

theorem render_moveArmed (x : XState Row (List Row)) (rows : List Row) (hcons : x.base.cons = some rows)
    (p : Pid) (a : Armed) :
    moveArmed byteOpsX (renderX x) p a = (moveArmed (absOpsX Row) x p a).map renderX := by
  have e1 : (renderState x.base).coll p = x.base.coll p := rfl
  have e2 : (renderState x.base).cons = some (renderFile rows) := by simp [renderState, hcons]
  have e3 : ∀ b, (renderState x.base).node b = (x.base.node b).map renderFile := fun _ => rfl
  unfold moveArmed
  simp only [renderX]
  rw [e1]
  cases hc : x.base.coll p with
  | idle => simp
  | collecting snap acc => simp
  | moving b rest acc buf pc =>
    rcases pc with _ | ⟨_ | _ | _, pc⟩ <;> rcases a with (_ | _ | _ | _) | (_ | _) <;>
      simp [e2, hcons, renderX, XState.disarm, XState.die, render_raiseOut, render_withCons, byte_opened_some]
    · rfl
    · rw [e3]
      cases x.base.node b with
      | none => rfl
      | some f =>
        simp only [Option.map_some, Option.some.injEq, show (renderState x.base).setNode b none =
          renderState (x.base.setNode b none) from (render_setNode x.base b none).symm]
        rfl

theorem render_stepX (x : XState Row (List Row)) (hl : LegalFiles x.base) (hcons : x.base.cons.isSome) (op : OpX Row) :
    stepX byteOpsX (renderX x) op = renderX (stepX (absOpsX Row) x op) := by
  cases op with
  | arm p a =>
    simp only [stepX, show (renderX x).dead = x.dead from rfl]
    split <;> rfl
  | kill p => rfl
  | breakLocks => rfl
  | base op =>
    obtain ⟨rows, hrows⟩ := Option.isSome_iff_exists.1 hcons
    have hplain : (⟨step byteOpsX.toFileOps (renderX x).base op, x.dead, x.armed⟩ : XState Row (List Char)) =
        renderX ⟨step (absOpsX Row).toFileOps x.base op, x.dead, x.armed⟩ :=
      congrArg (fun b => (⟨b, x.dead, x.armed⟩ : XState Row (List Char))) (render_step x.base hl op)
    show stepBase byteOpsX (renderX x) op = renderX (stepBase (absOpsX Row) x op)
    unfold stepBase
    simp only [show (renderX x).dead = x.dead from rfl, show (renderX x).armed = x.armed from rfl,
      render_lockFailRead, render_moveArmed x rows hrows]
    split
    · exact hplain
    · split
      · rfl
      · split
        · rfl
        · next a _ _ =>
          cases moveArmed (absOpsX Row) x _ a with
          | none => exact hplain
          | some y => rfl
        · exact hplain

theorem cons_step {ρ : Type} {L : ρ → Prop} {faulty : Prop} {s s' : AState ρ} (h : s.cons.isSome)
    (t : Step L faulty s s') : s'.cons.isSome := by
  cases t with
  | copy | cancel | opened => rfl
  | _ => exact h

structure BytesOk (s : State Row (List Row)) : Prop where
  safe : Safe s
  rows : RowsOk Row.Legal s
  cons : s.cons.isSome

theorem bytesOk_init : BytesOk (init (absOps Row) true) :=
  ⟨safe_init true, rowsOk_init true, rfl⟩

theorem render_runX {x : XState Row (List Row)} (h : BytesOk x.base) (ops : List (OpX Row))
    (hops : ∀ op ∈ ops, op.Legal) :
    runX byteOpsX (renderX x) ops = renderX (runX (absOpsX Row) x ops) ∧ BytesOk (runX (absOpsX Row) x ops).base := by
  induction ops generalizing x with
  | nil => exact ⟨rfl, h⟩
  | cons op ops ih =>
    simp only [runX, List.foldl_cons] at ih ⊢
    rw [render_stepX x h.rows.node h.cons op]
    refine ih ?_ (fun o ho => hops o (List.mem_cons_of_mem _ ho))
    exact stepX_inv (fun _ h => h.safe.pcOk)
      (fun _ _ h t => ⟨safe_step h.safe t, rowsOk_step h.rows t, cons_step h.cons t⟩) x h op
      fun o e => (show (OpX.base o).Legal from e ▸ hops op List.mem_cons_self).rowsIn

theorem render_initX : renderX (initX (absOpsX Row) true) = initX byteOpsX true :=
  congrArg (fun b => (⟨b, [], fun _ => none⟩ : XState Row (List Char))) (render_init true)

end Jade.Results
