import JadeModel.Proofs.SystemUniqueDefs
import JadeModel.Proofs.SystemNode

/-! Rows written by nodes, in EVERY execution (kills, failures, torn writes included): a node never writes
    a second row for a job, no other node writes one, the node result files are for pairwise distinct
    jobs, and at most one event of a history is a node writing a row for a given job. -/

namespace Jade.Sys

theorem nodeFile_fresh_step {s s' : Sys} {op : Op} (hn : NodeInv s) (hi : NodeW s) (h : Step s op s') :
    ∀ p a n, s'.procs p = .node a n → ∀ j, j ∈ n.queued ∨ j ∈ n.running → ∀ c : Bid, ∀ r ∈ s'.nodeFile c, r.job ≠ j := by
  have hc := fun p a (n : NodeP) hp j (hj : j ∈ n.queued ∨ j ∈ n.running) =>
    hj.elim (hi.fileQueued p a n hp j) (hi.fileRunning p a n hp j)
  induction h <;> intro q a n hq <;> frame_simp at hq
  case nodeRow p m j hp hg | nodeCancel p m j hp hg =>
    have := node_job_unique (j := j) hn hp (by simp [hg]); have := hi.queuedRunning _ _ _ hp
    proc_cases at hq from hc <;> grind
  case startBatch hp hs hb =>
    have := hi.filePending _ (find?_hid hb).1 _ (find?_hid hb).2 hs
    proc_cases at hq from hc <;> grind
  case scancel => grind
  all_goals proc_cases at hq from hc <;> grind

theorem nodeW_step {s s' : Sys} {op : Op} (hn : NodeInv s) (hi : NodeW s) (h : Step s op s') : NodeW s' where
  queuedRunning := queuedRunning_step hi.queuedRunning h
  fileQueued p a n hp j hj := nodeFile_fresh_step hn hi h p a n hp j (.inl hj)
  fileRunning p a n hp j hj := nodeFile_fresh_step hn hi h p a n hp j (.inr hj)
  filePending := by
    have hc := hi.filePending
    induction h <;> frame_goal
    case nodeRow p n j hp hg | nodeCancel p n j hp hg => have := node_job_started (j := j) hn hp (by simp [hg]); grind
    case sbatch hp hg hf =>
      -- a row in a node file is for a job of a batch, and the new batch's jobs are in no batch yet
      have := fun j h1 h2 => ns_not_batched hn.batch (j := j) hp hg.1 h1 h2
      have := hi.fileBatch; have := hn.hidKnown
      grind
    all_goals first | exact hc | grind
  fileBatch := by
    have hc := hi.fileBatch
    induction h <;> frame_goal
    case nodeRow hp hg | nodeCancel hp hg =>
      obtain ⟨B, hB, -, hbid, hq, hrun⟩ := hn.ofBatch _ _ _ hp
      grind
    all_goals first | exact hc | grind
  uniqN := by
    have := hi.uniqN
    induction h <;> frame_goal
    case collectFile => exact uniqN_clear this _
    case nodeRow hp hg => exact uniqN_snocNode this _ _ (hi.fileRunning _ _ _ hp _ hg)
    case nodeCancel hp hg => exact uniqN_snocNode this _ _ (hi.fileQueued _ _ _ hp _ hg.1)
    all_goals exact this

theorem nodeS_step {s s' : Sys} {op : Op} (hn : NodeInv s) (hw : NodeW s) (hi : NodeS s) (h : Step s op s') :
    NodeS s' where
  queuedSeen := by
    induction h <;> intro q a n hq <;> frame_simp at hq
    case nodeRow hp hg => have := hw.queuedRunning _ _ _ hp; proc_cases at hq from hi.queuedSeen <;> grind
    case scancel => grind [→ hi.queuedSeen]
    all_goals proc_cases at hq from hi.queuedSeen <;> grind
  runningSeen := by
    induction h <;> intro q a n hq <;> frame_simp at hq
    case nodeStart hp hg => have := hi.queuedSeen _ _ _ hp; proc_cases at hq from hi.runningSeen <;> grind
    case nodeCancel hp hg => have := hw.queuedRunning _ _ _ hp; proc_cases at hq from hi.runningSeen <;> grind
    case scancel => grind [→ hi.runningSeen]
    all_goals proc_cases at hq from hi.runningSeen <;> grind
  seenBatch := by
    induction h <;> intro q a n hq <;> frame_simp at hq
    case nodeRow hp hg | nodeCancel hp hg =>
      obtain ⟨b, hb, hbh, -, hqu, hrun⟩ := hn.ofBatch _ _ _ hp
      have := hn.hidUnique b hb
      proc_cases at hq from hi.seenBatch <;> grind
    case scancel => grind [→ hi.seenBatch]
    all_goals proc_cases at hq from hi.seenBatch <;> grind
  seenNodup := by
    induction h <;> intro q a n hq <;> frame_simp at hq
    case nodeRow hp hg => have := hi.runningSeen _ _ _ hp; proc_cases at hq from hi.seenNodup <;> grind [List.nodup_append]
    case nodeCancel hp hg => have := hi.queuedSeen _ _ _ hp; proc_cases at hq from hi.seenNodup <;> grind [List.nodup_append]
    case scancel => grind [→ hi.seenNodup]
    all_goals proc_cases at hq from hi.seenNodup <;> grind

theorem nodeWrote_step {s s' : Sys} {op : Op} (h : Step s op s') (j : JobId) (hw : NodeWrote s j) :
    NodeWrote s' j := by
  obtain ⟨p, a, n, hp, r, hr, hj⟩ := hw
  have key : ∃ a' n', s'.procs p = .node a' n' ∧ r ∈ n'.seen := by
    induction h <;> frame_goal <;> grind
  obtain ⟨a', n', hp', hr'⟩ := key
  exact ⟨p, a', n', hp', r, hr', hj⟩

theorem not_nodeWrote {s : Sys} (hn : NodeInv s) (hs : NodeS s) {p : Pid} {a : Bool} {n : NodeP} {j : JobId}
    (hp : s.procs p = .node a n) (hj : j ∈ n.queued ∨ j ∈ n.running) : ¬ NodeWrote s j := by
  rintro ⟨p', a', n', hp', r, hr, rfl⟩
  obtain ⟨b, hb, hbh, -, hq, hrun⟩ := hn.ofBatch p a n hp
  obtain ⟨B, hB, hBh, hseen⟩ := hs.seenBatch p' a' n' hp'
  have : B = b := mem_unique_batch hn.batch.jobsNodup hB hb (hseen r hr) (hj.elim (hq _) (hrun _))
  have := hn.oneRunner p' p a' a n' n hp' hp (by grind)
  have := hs.queuedSeen p a n hp
  have := hs.runningSeen p a n hp
  grind

theorem nodeWrites_fresh {s s' : Sys} {op : Op} {j : JobId} (hn : NodeInv s) (hs : NodeS s)
    (h : Step s op s') (hw : op.nodeWrites j = true) : ¬ NodeWrote s j ∧ NodeWrote s' j := by
  induction h <;> (try cases hw)
  case nodeRow p n k hp hg | nodeCancel p n k hp hg =>
    obtain rfl : k = j := by simpa [Op.nodeWrites] using hw
    exact ⟨not_nodeWrote hn hs hp (by simp [hg]), p, true, _, if_pos rfl, _,
      List.mem_append_right _ (List.mem_singleton_self _), rfl⟩

theorem node_run {s s' : Sys} (ops : List Op) (hn : NodeInv s) (hw : NodeW s) (hs : NodeS s)
    (h : run s ops = some s') : NodeW s' ∧ NodeS s' :=
  (run_inv (P := fun s => NodeInv s ∧ NodeW s ∧ NodeS s)
    (fun ⟨hn, hw, hs⟩ h => ⟨nodeInv_step hn h, nodeW_step hn hw h, nodeS_step hn hw hs h⟩)
    ops ⟨hn, hw, hs⟩ h).2

/-- every reachable state of every scenario, under every schedule, crash and failure -/
theorem node_reach (sc : Scn) (ops : List Op) (s : Sys) (h : run (init sc) ops = some s) : NodeW s ∧ NodeS s :=
  node_run ops (nodeInv_init sc) (nodeW_init sc) (nodeS_init sc) h

/-- from a state where a node has written a row for `j` no event writes one, and from any state at most one
    does: the first such event leads to a state of the first kind -/
theorem node_writes_once_run {s s' : Sys} (j : JobId) (ops : List Op) (hn : NodeInv s) (hw : NodeW s)
    (hs : NodeS s) (h : run s ops = some s') :
    ops.countP (·.nodeWrites j) ≤ 1 ∧ (NodeWrote s j → ops.countP (·.nodeWrites j) = 0) := by
  induction ops generalizing s with
  | nil => simp
  | cons op ops ih =>
    simp only [run] at h
    split at h
    · next s1 hs1 =>
      have h1 := step_sound hs1
      obtain ⟨i1, i2⟩ := ih (nodeInv_step hn h1) (nodeW_step hn hw h1) (nodeS_step hn hw hs h1) h
      rw [List.countP_cons]
      cases hop : op.nodeWrites j with
      | true =>
        obtain ⟨f1, f2⟩ := nodeWrites_fresh hn hs h1 hop
        simp only [i2 f2]
        exact ⟨by simp, fun hc => absurd hc f1⟩
      | false =>
        simp only [Bool.false_eq_true, if_false, Nat.add_zero]
        exact ⟨i1, fun hc => i2 (nodeWrote_step h1 j hc)⟩
    · cases h

/-- in every execution at most one event is a node writing a row for job `j` -/
theorem node_writes_once (sc : Scn) (ops : List Op) (s : Sys) (h : run (init sc) ops = some s) (j : JobId) :
    ops.countP (·.nodeWrites j) ≤ 1 :=
  (node_writes_once_run j ops (nodeInv_init sc) (nodeW_init sc) (nodeS_init sc) h).1

end Jade.Sys
