/-! Facts about lists that the proofs of several components use.  Core Lean only. -/

namespace Jade

theorem nodup_map_index_inj {α β} (f : α → β) (l : List α) (h : (l.map f).Nodup) (i j : Nat) (a b : α)
    (hi : l[i]? = some a) (hj : l[j]? = some b) (hab : f a = f b) : i = j :=
  (List.getElem?_inj (by simpa using (List.getElem?_eq_some_iff.1 hi).1) h).1 (by simp [hi, hj, hab])

theorem eq_of_nodup_map {α β} {f : α → β} {l : List α} (hnd : (l.map f).Nodup) {a b : α} (ha : a ∈ l)
    (hb : b ∈ l) (h : f a = f b) : a = b := by
  obtain ⟨i, hi⟩ := List.getElem?_of_mem ha
  obtain ⟨j, hj⟩ := List.getElem?_of_mem hb
  cases nodup_map_index_inj f l hnd i j a b hi hj h
  exact Option.some.inj (hi.symm.trans hj)

/-- pigeonhole: a duplicate-free sublist that is at least as long contains everything -/
theorem mem_of_nodup_subset_length_le {α : Type} [DecidableEq α] {l1 l2 : List α} (hn : l1.Nodup)
    (hs : ∀ x ∈ l1, x ∈ l2) (hlen : l2.length ≤ l1.length) : ∀ x ∈ l2, x ∈ l1 := by
  intro x hx
  by_cases h : x ∈ l1
  · exact h
  · have := hn.length_le_of_subset (l₂ := l2.erase x) (fun y hy =>
      (List.mem_erase_of_ne (by rintro rfl; exact h hy)).2 (hs y hy))
    rw [List.length_erase_of_mem hx] at this
    have hpos : 0 < l2.length := List.length_pos_of_mem hx
    omega

/-- a duplicate-free list of numbers below `n` has as many elements as `range n` has members of it -/
theorem countP_contains_range {l : List Nat} {n : Nat} (hnd : l.Nodup) (hlt : ∀ k ∈ l, k < n) :
    (List.range n).countP (fun k => l.contains k) = l.length := by
  rw [List.countP_eq_length_filter]
  apply List.Perm.length_eq
  rw [List.perm_ext_iff_of_nodup (List.nodup_range.filter _) hnd]
  intro a
  simp only [List.mem_filter, List.mem_range, List.contains_eq_mem, decide_eq_true_eq]
  exact ⟨fun h => h.2, fun h => ⟨hlt a h, h⟩⟩

end Jade
