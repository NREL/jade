import JadeModel.Proofs.SystemStatusFlow0

/-! Fault-free status flow (C09), part B: where a job's token is determines its state (`FlowB`) — preserved by
    every fault-free event. -/

namespace Jade.Sys

theorem FlowB.cancels_newly {s : Sys} (hb : FlowB s) {p : Pid} {a : Bool} {x : SubP} (hp : s.procs p = .sub a x)
    (hpc : x.pc ≠ .collecting) : ∀ j ∈ x.cancels, j ∈ x.newly := by
  intro j hj
  rcases hb.cancelsWhere p a x hp j hj with w | w | w
  · exact w
  · obtain ⟨r, hr, -⟩ := List.mem_map.1 w
    exact absurd (hb.pcPass p a x hp r hr) hpc
  · exact absurd (hb.pcToCancel p a x hp j w) hpc

/-- a row waiting in a node file belongs to a job the collecting holder sees as submitted (or canceled itself) -/
theorem file_row_sub {s : Sys} (hr : RoleInv s) (ha : FlowA s) (hb : FlowB s) {p : Pid} {a : Bool} {x : SubP}
    (hp : s.procs p = .sub a x) (hpc : x.pc = .collecting ∨ x.pc = .loaded) {B : Bid} {r : Row}
    (hrB : r ∈ s.nodeFile B) : x.loc.st r.job = .sub ∨ r.job ∈ x.cancels := by
  have hh : holds x.pc = true := by rcases hpc with e | e <;> rw [e] <;> rfl
  have h := hb.rowSt _ (Or.inr ⟨B, r, hrB, rfl⟩)
  simp only [holderPend, holderCancels, holderSub_eq hr hp hh] at h
  have := hb.locEq p a x hp hh r.job; have := hb.pcPend p a x hp r.job
  -- a job that is done on disk has its row in the consolidated file, not in a node file
  have := ha.doneProc r.job; have := ha.fileProc B r hrB
  cases hst : s.disk.st r.job <;> grind

theorem canceled_step {s s' : Sys} {op : Op} (hr : RoleInv s) (hb : FlowB s)
    (hop : op.isFault = false) (h : Step s op s') (j : JobId) (hj : j ∈ holderCancels s) :
    s'.disk.st j ≠ .ns ∨ j ∈ holderCancels s' := by
  simp only [mem_holderCancels] at hj ⊢
  obtain ⟨q, a, y, hs, hq, hj⟩ := hj
  induction h <;> (try cases hop) <;> frame_goal
  case persist hp hg =>
    have := hr.holder _ _ _ hp; have := hb.cancels_newly hp (by simp [hg]); grind [holds, persistStatus]
  case demote hp hg hs => have := hb.pcCancels _ _ _ hp; grind
  all_goals grind [SubP.load]

theorem newRow_st {s s' : Sys} {op : Op} (hn : NodeInv s) (ha : FlowA s) (hb : FlowB s) (h : Step s op s') (j : JobId)
    (hj : rowOf op = some j) : s.disk.st j ≠ .ns ∨ j ∈ holderPend s ∨ j ∈ holderCancels s := by
  induction h <;> cases hj
  case cancelRow p x rest hp hg ht =>
    have hx := hb.toCancelSub p true x hp j (by simp [ht])
    have := hn.batch.role.holder p true x hp (by rw [hg]; rfl)
    exact Or.inr (Or.inr (mem_holderCancels.2 ⟨p, true, x, this, hp, hx⟩))
  case nodeRow p n hp hg | nodeCancel p n hp hg => exact or_assoc.1 (Or.inl (node_job_st hn ha hb hp (by simp [hg])).1)

theorem flowB_step {s s' : Sys} {op : Op} (hn : NodeInv s) (ha : FlowA s) (hb : FlowB s)
    (hop : op.isFault = false) (h : Step s op s') : FlowB s' where
  batchSt := batchSt_step hn.batch hb.pendMarked (risky_of_isFault hop) h hb.batchSt
  rowSt := by
    intro j hj
    have h0 : s.disk.st j ≠ .ns ∨ j ∈ holderPend s ∨ j ∈ holderCancels s :=
      (hasRow_inv h j hj).elim (hb.rowSt j) (newRow_st hn ha hb h j)
    rcases or_assoc.2 h0 with h1 | h1
    · exact or_assoc.1 (Or.inl (submitted_step hn.batch hb.pendMarked (risky_of_isFault hop) h j h1))
    · exact (canceled_step hn.batch.role hb hop h j h1).imp_right Or.inr
  toCancelSub := by
    induction h <;> (try cases hop) <;> intro q a y hq <;> frame_simp at hq
    case persist hp hg => have := hb.pcToCancel _ _ _ hp; proc_cases at hq from hb.toCancelSub <;> grind
    all_goals proc_cases at hq from hb.toCancelSub <;> grind [SubP.load]
  cancelsSt := by
    induction h <;> (try cases hop) <;> intro q a y hq <;> frame_simp at hq
    case passEnd hp hg =>
      have := cancelSetOk_ns _ _ _ hg.2.2.2.2; have := hb.locEq _ _ _ hp
      proc_cases at hq from hb.cancelsSt <;> grind [holds]
    case persist hp hg => have := hb.pcCancels; proc_cases at hq from hb.cancelsSt <;> grind [→ hn.batch.role.holder, holds]
    all_goals proc_cases at hq from hb.cancelsSt <;> grind [SubP.load]
  cancelsNd := by
    induction h <;> (try cases hop) <;> intro q a y hq <;> frame_simp at hq
    case passEnd hp hg =>
      have := cancelSetOk_ns _ _ _ hg.2.2.2.2; have := hb.cancelsSt _ _ _ hp
      proc_cases at hq from hb.cancelsNd <;> grind [List.nodup_append]
    all_goals proc_cases at hq from hb.cancelsNd <;> grind [SubP.load]
  cancelsWhere := by
    induction h <;> (try cases hop) <;> intro q a y hq <;> frame_simp at hq
    all_goals proc_cases at hq from hb.cancelsWhere <;> grind [SubP.load]
  passSt := by
    induction h <;> (try cases hop) <;> intro q a y hq <;> frame_simp at hq
    case collectFile hp hg =>
      have := fun B r => @file_row_sub s hn.batch.role ha hb _ _ _ hp (hg.1.imp_right And.left) B r
      proc_cases at hq from hb.passSt <;> grind
    case cancelRow hp ht hg => have := hb.toCancelSub _ _ _ hp; proc_cases at hq from hb.passSt <;> grind
    case persist hp hg => have := hb.pcPass _ _ _ hp; proc_cases at hq from hb.passSt <;> grind
    all_goals proc_cases at hq from hb.passSt <;> grind [SubP.load]
  newlySt := by
    induction h <;> (try cases hop) <;> intro q a y hq <;> frame_simp at hq
    case passEnd hp hg => have := hb.passSt _ _ _ hp; proc_cases at hq from hb.newlySt <;> grind
    all_goals proc_cases at hq from hb.newlySt <;> grind [SubP.load]
  locEq := by
    induction h <;> (try cases hop) <;> intro q a y hq <;> frame_simp at hq
    case persist hp hg => proc_cases at hq from hb.locEq <;> grind [→ hn.batch.role.holder, holds]
    all_goals proc_cases at hq from hb.locEq <;> grind [holds, SubP.load]
  pendNd := by
    induction h <;> (try cases hop) <;> intro q a y hq <;> frame_simp at hq
    all_goals proc_cases at hq from hb.pendNd <;> grind [SubP.load, List.nodup_append]
  pendLt := by
    induction h <;> (try cases hop) <;> intro q a y hq <;> frame_simp at hq
    all_goals proc_cases at hq from hb.pendLt <;> grind [SubP.load]
  pcPend := by
    induction h <;> (try cases hop) <;> intro q a y hq <;> frame_simp at hq
    all_goals proc_cases at hq from hb.pcPend <;> grind [SubP.load]
  pcCancels := by
    induction h <;> (try cases hop) <;> intro q a y hq <;> frame_simp at hq
    case skipPersist hp hg => have := hb.cancels_newly hp (by simp [hg.1]); proc_cases at hq from hb.pcCancels <;> grind
    all_goals proc_cases at hq from hb.pcCancels <;> grind [SubP.load]
  pcNewly := by
    induction h <;> (try cases hop) <;> intro q a y hq <;> frame_simp at hq
    all_goals proc_cases at hq from hb.pcNewly <;> grind [SubP.load]
  pcPass := by
    induction h <;> (try cases hop) <;> intro q a y hq <;> frame_simp at hq
    all_goals proc_cases at hq from hb.pcPass <;> grind [SubP.load]
  pcToCancel := by
    induction h <;> (try cases hop) <;> intro q a y hq <;> frame_simp at hq
    all_goals proc_cases at hq from hb.pcToCancel <;> grind [SubP.load]

end Jade.Sys
