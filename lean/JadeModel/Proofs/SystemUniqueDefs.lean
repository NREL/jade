import JadeModel.Proofs.SystemOutcomeDefs
import JadeModel.Proofs.SystemBase

/-! One row per job (C03), definitions.  Row files with pairwise distinct jobs and the list lemmas for the
    three ways the files change (a node appends a row, a submitter appends a cancel row, `_move_results`
    moves a node file); the invariants `PlainA/B/C` of executions without an exception inside a submitter
    round; the invariants `NodeW/NodeS` of the rows written by nodes in every execution. -/

namespace Jade.Sys

/-- the rows on disk (consolidated file `pr`, node files `nf`) are for pairwise distinct jobs -/
structure UniqF (pr : List Row) (nf : Bid → List Row) : Prop where
  proc : (pr.map (·.job)).Nodup
  node : ∀ b : Bid, ((nf b).map (·.job)).Nodup
  procNode : ∀ b : Bid, ∀ r ∈ pr, ∀ r' ∈ nf b, r.job ≠ r'.job
  nodeNode : ∀ b c : Bid, b ≠ c → ∀ r ∈ nf b, ∀ r' ∈ nf c, r.job ≠ r'.job

/-- the node files alone -/
structure UniqN (nf : Bid → List Row) : Prop where
  node : ∀ b : Bid, ((nf b).map (·.job)).Nodup
  nodeNode : ∀ b c : Bid, b ≠ c → ∀ r ∈ nf b, ∀ r' ∈ nf c, r.job ≠ r'.job

theorem UniqF.nodes {pr : List Row} {nf : Bid → List Row} (h : UniqF pr nf) : UniqN nf := ⟨h.node, h.nodeNode⟩

theorem hasRowF_move (pr : List Row) (nf : Bid → List Row) (b : Bid) (j : JobId) :
    HasRowF (pr ++ nf b) (fun c => if c = b then [] else nf c) j ↔ HasRowF pr nf j := by
  unfold HasRowF
  grind

theorem hasRowF_copy (pr : List Row) (nf : Bid → List Row) (b : Bid) (j : JobId) :
    HasRowF (pr ++ nf b) nf j ↔ HasRowF pr nf j := by
  unfold HasRowF
  grind

theorem hasRowF_snocProc (pr : List Row) (nf : Bid → List Row) (r0 : Row) (j : JobId) :
    HasRowF (pr ++ [r0]) nf j ↔ (HasRowF pr nf j ∨ r0.job = j) := by
  unfold HasRowF
  grind

theorem hasRowF_snocNode (pr : List Row) (nf : Bid → List Row) (b : Bid) (r0 : Row) (j : JobId) :
    HasRowF pr (fun c => if c = b then nf c ++ [r0] else nf c) j ↔ (HasRowF pr nf j ∨ r0.job = j) := by
  have : r0 ∈ (fun c => if c = b then nf c ++ [r0] else nf c) b := by simp
  unfold HasRowF
  grind

theorem uniqF_move {pr : List Row} {nf : Bid → List Row} (h : UniqF pr nf) (b : Bid) :
    UniqF (pr ++ nf b) (fun c => if c = b then [] else nf c) := by
  obtain ⟨h1, h2, h3, h4⟩ := h
  refine ⟨?_, ?_, ?_, ?_⟩ <;> grind [List.nodup_append]

theorem uniqF_snocProc {pr : List Row} {nf : Bid → List Row} (h : UniqF pr nf) (r0 : Row)
    (hn : ¬ HasRowF pr nf r0.job) : UniqF (pr ++ [r0]) nf := by
  obtain ⟨h1, h2, h3, h4⟩ := h
  unfold HasRowF at hn
  refine ⟨?_, h2, ?_, h4⟩ <;> grind [List.nodup_append]

theorem uniqN_snocNode {nf : Bid → List Row} (h : UniqN nf) (b : Bid) (r0 : Row)
    (hn : ∀ c : Bid, ∀ r ∈ nf c, r.job ≠ r0.job) : UniqN (fun c => if c = b then nf c ++ [r0] else nf c) := by
  obtain ⟨h2, h4⟩ := h
  refine ⟨?_, ?_⟩ <;> grind [List.nodup_append]

theorem uniqF_snocNode {pr : List Row} {nf : Bid → List Row} (h : UniqF pr nf) (b : Bid) (r0 : Row)
    (hn : ¬ HasRowF pr nf r0.job) : UniqF pr (fun c => if c = b then nf c ++ [r0] else nf c) := by
  unfold HasRowF at hn
  obtain ⟨k2, k4⟩ := uniqN_snocNode h.nodes b r0 (by grind)
  refine ⟨h.proc, k2, ?_, k4⟩
  have := h.procNode
  grind

theorem uniqN_clear {nf : Bid → List Row} (h : UniqN nf) (b : Bid) :
    UniqN (fun c => if c = b then [] else nf c) := by
  obtain ⟨h2, h4⟩ := h
  refine ⟨?_, ?_⟩ <;> grind

theorem uniqF_nil : UniqF [] (fun _ => []) := by
  refine ⟨?_, ?_, ?_, ?_⟩ <;> simp

/-- at most one row of job `j` anywhere on disk: equal jobs means the same position in the same file -/
theorem UniqF.row_unique {pr : List Row} {nf : Bid → List Row} (h : UniqF pr nf) {r r' : Row}
    (hr : OnDiskF pr nf r) (hr' : OnDiskF pr nf r') (hj : r.job = r'.job) : r = r' := by
  have inj : ∀ (l : List Row), (l.map (·.job)).Nodup → ∀ a ∈ l, ∀ c ∈ l, a.job = c.job → a = c := by
    intro l
    induction l <;> grind
  obtain ⟨h1, h2, h3, h4⟩ := h
  unfold OnDiskF at hr hr'
  grind

/-- the events after which a second row for a job becomes possible: an exception inside a submitter
    round (`fail`, the torn `persist`, the torn `_move_results`) -/
def Op.risky : Op → Bool
  | .collectCopy _ _ => true
  | .persistCfg _ => true
  | .persistJobs _ => true
  | .fail _ => true
  | _ => false

theorem risky_of_faulty {op : Op} (h : op.faulty = false) : op.risky = false := by
  cases op <;> first | rfl | cases h

/-- program-counter discipline of rounds that never see an exception -/
structure PlainA (s : Sys) : Prop where
  noFail : ∀ q a y, s.procs q = .sub a y → y.pc ≠ .failing
  pendMarked : ∀ q a y, s.procs q = .sub a y → y.pend ≠ [] → y.pc = .marked
  /-- outside the collection loop nothing is waiting to be canceled or to be folded into `newly` -/
  quiet : ∀ q a y, s.procs q = .sub a y → y.pc ≠ .collecting → y.toCancel = [] ∧ y.pass = []
  /-- before the first pass and after `update_job_status` nothing is newly completed -/
  quietNewly : ∀ q a y, s.procs q = .sub a y →
    (y.pc = .fresh ∨ y.pc = .loaded ∨ y.pc = .persisted ∨ y.pc = .unmarked ∨ y.pc = .summarized ∨ y.pc = .flagged) →
    y.newly = []
  /-- every batch is on disk or pending in the role holder's memory (no orphaned round) -/
  batchJobs : ∀ b ∈ s.batches, ∀ j ∈ b.jobs, s.disk.st j ≠ .ns ∨ j ∈ holderPend s

theorem plainA_init (sc : Scn) : PlainA (init sc) := by
  refine ⟨?_, ?_, ?_, ?_, ?_⟩ <;> simp [init]

/-- a job that is submitted on disk or pending in the role holder's memory stays so while no round is cut short by an
    exception: `persist` writes the pending jobs to the status file, which never falls behind the holder's copy, and a
    round leaves with nothing pending -/
theorem submitted_step {s s' : Sys} {op : Op} (hb : BatchInv s)
    (hpm : ∀ q a y, s.procs q = .sub a y → y.pend ≠ [] → y.pc = .marked) (hr : op.risky = false)
    (h : Step s op s') (j : JobId) (hj : s.disk.st j ≠ .ns ∨ j ∈ holderPend s) :
    s'.disk.st j ≠ .ns ∨ j ∈ holderPend s' := by
  simp only [mem_holderPend] at hj ⊢
  induction h <;> (try cases hr) <;> frame_goal
  case persist hp hg => have := hb.role.holder _ _ _ hp; have := hb.locSt _ _ _ hp; grind [holds, persistStatus]
  case demote hp hg hs => have := hpm _ _ _ hp; grind
  all_goals clear hpm; grind [SubP.load]

/-- hence every batch stays on disk or pending with the role holder (`PlainA.batchJobs`, `FlowB.batchSt`) -/
theorem batchSt_step {s s' : Sys} {op : Op} (hb : BatchInv s)
    (hpm : ∀ q a y, s.procs q = .sub a y → y.pend ≠ [] → y.pc = .marked) (hr : op.risky = false)
    (h : Step s op s') (hst : ∀ b ∈ s.batches, ∀ j ∈ b.jobs, s.disk.st j ≠ .ns ∨ j ∈ holderPend s) :
    ∀ b ∈ s'.batches, ∀ j ∈ b.jobs, s'.disk.st j ≠ .ns ∨ j ∈ holderPend s' := by
  have hsub := submitted_step hb hpm hr h
  induction h <;> (try cases hr)
  case sbatch p x jobs _ hp hg _ | sbatchFailed p x jobs hp hg =>
    intro b hb' j hj
    rcases List.mem_append.1 hb' with hb' | hb'
    · exact hsub j (hst b hb' j hj)
    · obtain rfl := List.mem_singleton.1 hb'
      have := hb.role.holder p true x hp (by rw [hg.1]; rfl)
      exact Or.inr (mem_holderPend.2 ⟨p, true, _, this, if_pos rfl, List.mem_append_right _ hj⟩)
  all_goals exact fun b hb' j hj => hsub j (hst b hb' j hj)

/-- the role holder's copy no longer lists `j` as NOT_SUBMITTED, or `j` was handed out in this round -/
def holderKnows (s : Sys) (j : JobId) : Prop :=
  match holderSub s with
  | some y => y.loc.st j ≠ .ns ∨ j ∈ y.pend
  | none => False

theorem holderKnows_iff {s : Sys} {j : JobId} :
    holderKnows s j ↔ ∃ y, holderSub s = some y ∧ (y.loc.st j ≠ .ns ∨ j ∈ y.pend) := by
  unfold holderKnows
  split <;> simp_all

structure PlainB (s : Sys) : Prop where
  /-- where the holder's copy is ahead of the status file, the difference is a cancellation of this round -/
  locAhead : ∀ q a y, s.procs q = .sub a y → holds y.pc = true → ∀ j, y.loc.st j ≠ .ns →
    s.disk.st j ≠ .ns ∨ j ∈ y.newly ∨ j ∈ y.toCancel ∨ j ∈ y.pass.map (·.job)
  cancelDone : ∀ q a y, s.procs q = .sub a y → holds y.pc = true → ∀ j ∈ y.toCancel, y.loc.st j ≠ .ns
  cancelNoBatch : ∀ q a y, s.procs q = .sub a y → holds y.pc = true → ∀ j ∈ y.toCancel,
    ∀ B ∈ s.batches, j ∉ B.jobs
  cancelNodup : ∀ q a y, s.procs q = .sub a y → holds y.pc = true → y.toCancel.Nodup
  /-- a job with a row is no longer NOT_SUBMITTED on disk, or the role holder will write that -/
  rowKnown : ∀ j, HasRow s j → s.disk.st j ≠ .ns ∨ holderKnows s j

theorem plainB_init (sc : Scn) : PlainB (init sc) := by
  refine ⟨?_, ?_, ?_, ?_, ?_⟩ <;> simp [init, HasRow, HasRowF]

structure PlainC (s : Sys) : Prop where
  queuedNoRow : ∀ p a n, s.procs p = .node a n → ∀ j ∈ n.queued, ¬ HasRow s j
  runningNoRow : ∀ p a n, s.procs p = .node a n → ∀ j ∈ n.running, ¬ HasRow s j
  queuedRunning : ∀ p a n, s.procs p = .node a n → ∀ j ∈ n.queued, j ∉ n.running
  cancelNoRow : ∀ q a y, s.procs q = .sub a y → holds y.pc = true → ∀ j ∈ y.toCancel, ¬ HasRow s j
  /-- the jobs of a batch that has not started have no row -/
  pendingNoRow : ∀ B ∈ s.batches, ∀ h, B.hid = some h → s.slurm h = some .pending → ∀ j ∈ B.jobs, ¬ HasRow s j
  uniq : UniqF s.processed s.nodeFile

theorem plainC_init (sc : Scn) : PlainC (init sc) := by
  refine ⟨?_, ?_, ?_, ?_, ?_, ?_⟩ <;> simp [init]
  exact uniqF_nil

/-- a job the role holder still lists as NOT_SUBMITTED and has not handed out is in no batch -/
theorem ns_not_batched {s : Sys} (hi : BatchInv s) {p : Pid} {x : SubP} {j : JobId}
    (hp : s.procs p = .sub true x) (hpc : x.pc = .marked) (h1 : x.loc.st j = .ns) (h2 : j ∉ x.pend) :
    ∀ B ∈ s.batches, j ∉ B.jobs := by
  have := (sbatch_fresh (jobs := [j]) hi hp hpc (by simpa using ⟨h1, h2⟩)).1 j (by simp)
  intro B hB hj
  exact this (List.mem_flatMap.2 ⟨B, hB, hj⟩)

/-- a job waiting or running on a node is on no other node -/
theorem node_job_unique {s : Sys} (hi : NodeInv s) {p : Pid} {a : Bool} {n : NodeP} {j : JobId}
    (hp : s.procs p = .node a n) (hj : j ∈ n.queued ∨ j ∈ n.running) :
    ∀ p' a' n', s.procs p' = .node a' n' → j ∈ n'.queued ∨ j ∈ n'.running → p' = p := by
  intro p' a' n' hp' hj'
  obtain ⟨b, hb, hh, -, hq, hr⟩ := hi.ofBatch p a n hp
  obtain ⟨b', hb', hh', -, hq', hr'⟩ := hi.ofBatch p' a' n' hp'
  have h1 : j ∈ b.jobs := hj.elim (hq j) (hr j)
  have h2 : j ∈ b'.jobs := hj'.elim (hq' j) (hr' j)
  have hbb : b' = b := mem_unique_batch hi.batch.jobsNodup hb' hb h2 h1
  subst hbb
  have : n'.hid = n.hid := by rw [hh'] at hh; exact Option.some.inj hh
  exact hi.oneRunner p' p a' a n' n hp' hp this

theorem not_on_node {s : Sys} (hn : NodeInv s) {j : JobId} (hj : ∀ B ∈ s.batches, j ∉ B.jobs) :
    ∀ p a n, s.procs p = .node a n → j ∉ n.queued ∧ j ∉ n.running := by
  intro p a n hp
  obtain ⟨B, hB, -, -, h1, h2⟩ := hn.ofBatch p a n hp
  exact ⟨fun h => hj B hB (h1 j h), fun h => hj B hB (h2 j h)⟩

theorem node_job_started {s : Sys} (hn : NodeInv s) {p : Pid} {a : Bool} {n : NodeP} {j : JobId}
    (hp : s.procs p = .node a n) (hj : j ∈ n.queued ∨ j ∈ n.running) :
    ∀ B ∈ s.batches, j ∈ B.jobs → ∀ h, B.hid = some h → s.slurm h ≠ some .pending := by
  intro B hB hjB h hh
  obtain ⟨b, hb, hbh, -, h1, h2⟩ := hn.ofBatch p a n hp
  have : B = b := mem_unique_batch hn.batch.jobsNodup hB hb hjB (hj.elim (h1 j) (h2 j))
  have := hn.started p a n hp
  grind

theorem queuedRunning_step {s s' : Sys} {op : Op}
    (hi : ∀ p a n, s.procs p = .node a n → ∀ j ∈ n.queued, j ∉ n.running) (h : Step s op s') :
    ∀ p a n, s'.procs p = .node a n → ∀ j ∈ n.queued, j ∉ n.running := by
  induction h <;> intro q a n hq <;> frame_simp at hq <;> grind

/-! Where a job's row is about to be written there is none yet, in the form shared by the invariants of calm histories
    (`PlainC`) and of fault-free ones (`FlowA`): the clause of the state before, and what the invariants at hand say about the
    job of the one event that appends a row. -/

/-- a job waiting or running on a node has no row -/
theorem nodeNoRow_step {s s' : Sys} {op : Op} (hn : NodeInv s)
    (hc : ∀ p a n, s.procs p = .node a n → ∀ j, j ∈ n.queued ∨ j ∈ n.running → ¬ HasRow s j)
    (hd : ∀ p a n, s.procs p = .node a n → ∀ j ∈ n.queued, j ∉ n.running)
    (hpend : ∀ B ∈ s.batches, ∀ h, B.hid = some h → s.slurm h = some .pending → ∀ j ∈ B.jobs, ¬ HasRow s j)
    (hcan : ∀ q x j rest, s.procs q = .sub true x → x.pc = .collecting → x.toCancel = j :: rest →
      ∀ p a n, s.procs p = .node a n → j ∉ n.queued ∧ j ∉ n.running)
    (h : Step s op s') : ∀ p a n, s'.procs p = .node a n → ∀ j, j ∈ n.queued ∨ j ∈ n.running → ¬ HasRow s' j := by
  simp only [HasRow] at hc hpend ⊢
  induction h <;> intro q a n hq <;> frame_simp at hq
  case collectFile => simp only [hasRowF_move]; proc_cases at hq from hc
  case collectCopy => simp only [hasRowF_copy]; proc_cases at hq from hc
  case cancelRow hp ht hg =>
    have := hcan _ _ _ _ hp hg ht
    simp only [hasRowF_snocProc]
    proc_cases at hq from hc <;> grind
  -- a job is on one node only
  case nodeRow p m j hp hg | nodeCancel p m j hp hg =>
    have := node_job_unique (j := j) hn hp (by simp [hg]); have := hd _ _ _ hp
    simp only [hasRowF_snocNode]
    proc_cases at hq from hc <;> grind
  -- the queue of the new runner is a batch that was pending
  case startBatch hp hs hb =>
    have := hpend _ (find?_hid hb).1 _ (find?_hid hb).2 hs
    proc_cases at hq from hc <;> grind
  case scancel => grind
  all_goals clear hd hpend hcan; proc_cases at hq from hc <;> grind

theorem cancelNoRow_step {s s' : Sys} {op : Op} (hn : NodeInv s)
    (hc : ∀ q a y, s.procs q = .sub a y → holds y.pc = true → ∀ j ∈ y.toCancel, ¬ HasRow s j)
    (hnd : ∀ q a y, s.procs q = .sub a y → holds y.pc = true → y.toCancel.Nodup)
    (hnew : ∀ p x, s.procs p = .sub true x → holds x.pc = true → ∀ j, x.loc.st j = .ns → j ∉ x.pend → ¬ HasRow s j)
    (hpm : ∀ q a y, s.procs q = .sub a y → y.pend ≠ [] → y.pc = .marked)
    (hcan : ∀ q a y, s.procs q = .sub a y → holds y.pc = true → ∀ j ∈ y.toCancel, ∀ B ∈ s.batches, j ∉ B.jobs)
    (hr : op.risky = false) (h : Step s op s') :
    ∀ q a y, s'.procs q = .sub a y → holds y.pc = true → ∀ j ∈ y.toCancel, ¬ HasRow s' j := by
  simp only [HasRow] at hc hnew ⊢
  induction h <;> (try cases hr) <;> intro q a y hq <;> frame_simp at hq
  case collectFile => simp only [hasRowF_move]; proc_cases at hq from hc <;> grind [holds]
  -- the pass cancels NOT_SUBMITTED jobs only
  case passEnd hp hg =>
    have := hpm _ _ _ hp; have := hnew _ _ hp
    proc_cases at hq from hc <;> grind [cancelSetOk_iff, mustCancel_iff, holds]
  -- only the role holder has pending cancel decisions, and its list has no duplicates
  case cancelRow hp ht hg =>
    have := hnd _ _ _ hp; have := hn.batch.role.holder
    simp only [hasRowF_snocProc]
    grind [holds]
  case nodeRow p n j hp hg | nodeCancel p n j hp hg =>
    have := fun q a x hq hh hj => not_on_node hn (hcan q a x hq hh j hj) p true n hp
    simp only [hasRowF_snocNode]
    proc_cases at hq from hc <;> grind
  all_goals clear hnd hnew hpm hcan; proc_cases at hq from hc <;> grind [SubP.load, holds]

/-- the jobs of a batch that has not started have no row -/
theorem pendingNoRow_step {s s' : Sys} {op : Op} (hn : NodeInv s)
    (hc : ∀ B ∈ s.batches, ∀ h, B.hid = some h → s.slurm h = some .pending → ∀ j ∈ B.jobs, ¬ HasRow s j)
    (hnew : ∀ p x, s.procs p = .sub true x → x.pc = .marked → ∀ j, x.loc.st j = .ns → j ∉ x.pend → ¬ HasRow s j)
    (hcan : ∀ q x j rest, s.procs q = .sub true x → x.pc = .collecting → x.toCancel = j :: rest →
      ∀ B ∈ s.batches, j ∉ B.jobs)
    (h : Step s op s') :
    ∀ B ∈ s'.batches, ∀ h, B.hid = some h → s'.slurm h = some .pending → ∀ j ∈ B.jobs, ¬ HasRow s' j := by
  simp only [HasRow] at hc hnew ⊢
  induction h <;> frame_goal
  case collectFile => simp only [hasRowF_move]; exact hc
  case collectCopy => simp only [hasRowF_copy]; exact hc
  case cancelRow hp ht hg =>
    have := hcan _ _ _ _ hp hg ht
    simp only [hasRowF_snocProc]
    grind
  -- the batch of a running node is no longer pending
  case nodeRow p n j hp hg | nodeCancel p n j hp hg =>
    have := node_job_started (j := j) hn hp (by simp [hg])
    simp only [hasRowF_snocNode]
    grind
  -- the jobs of the new batch are NOT_SUBMITTED; no earlier batch has the new HPC id
  case sbatch hp hg hf => have := hnew _ _ hp hg.1; have := hn.hidKnown; grind
  all_goals clear hnew hcan; first | exact hc | grind

/-- node result files -/
structure NodeW (s : Sys) : Prop where
  queuedRunning : ∀ p a n, s.procs p = .node a n → ∀ j ∈ n.queued, j ∉ n.running
  /-- what waits or runs on a node has no row in any node file -/
  fileQueued : ∀ p a n, s.procs p = .node a n → ∀ j ∈ n.queued, ∀ c : Bid, ∀ r ∈ s.nodeFile c, r.job ≠ j
  fileRunning : ∀ p a n, s.procs p = .node a n → ∀ j ∈ n.running, ∀ c : Bid, ∀ r ∈ s.nodeFile c, r.job ≠ j
  filePending : ∀ B ∈ s.batches, ∀ h, B.hid = some h → s.slurm h = some .pending →
    ∀ j ∈ B.jobs, ∀ c : Bid, ∀ r ∈ s.nodeFile c, r.job ≠ j
  /-- a row in a node file is for a job of some batch -/
  fileBatch : ∀ c : Bid, ∀ r ∈ s.nodeFile c, ∃ B ∈ s.batches, r.job ∈ B.jobs
  uniqN : UniqN s.nodeFile

theorem nodeW_init (sc : Scn) : NodeW (init sc) := by
  refine ⟨?_, ?_, ?_, ?_, ?_, ⟨?_, ?_⟩⟩ <;> simp [init]

/-- the node runners' own records (`seen` = the rows a runner wrote) -/
structure NodeS (s : Sys) : Prop where
  queuedSeen : ∀ p a n, s.procs p = .node a n → ∀ j ∈ n.queued, ∀ r ∈ n.seen, r.job ≠ j
  runningSeen : ∀ p a n, s.procs p = .node a n → ∀ j ∈ n.running, ∀ r ∈ n.seen, r.job ≠ j
  /-- a runner writes rows for jobs of its own batch only -/
  seenBatch : ∀ p a n, s.procs p = .node a n → ∃ B ∈ s.batches, B.hid = some n.hid ∧ ∀ r ∈ n.seen, r.job ∈ B.jobs
  seenNodup : ∀ p a n, s.procs p = .node a n → (n.seen.map (·.job)).Nodup

theorem nodeS_init (sc : Scn) : NodeS (init sc) := by
  refine ⟨?_, ?_, ?_, ?_⟩ <;> simp [init]

/-- some node runner has written a row for `j` -/
def NodeWrote (s : Sys) (j : JobId) : Prop := ∃ p a n, s.procs p = .node a n ∧ ∃ r ∈ n.seen, r.job = j

/-- the event is a node writing a row for job `j` (`_complete` or the node-level `cancel()`) -/
def Op.nodeWrites (j : JobId) : Op → Bool
  | .nodeRow _ k => k == j
  | .nodeCancel _ k => k == j
  | _ => false

#realize_aux Jade

end Jade.Sys
