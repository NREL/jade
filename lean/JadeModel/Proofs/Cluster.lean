import JadeModel.Model.ClusterCrash

/-!
Helper lemmas for `Model/Cluster.lean`.

Section 1 characterises the generated predicates (one lemma each: a change of the generated text breaks
exactly that lemma).  Everything else is proved from these characterisations.
-/

namespace Jade.Cluster
open Jade.Gen.Cluster

/-! ## 1. generated predicates -/

theorem cfgVersionMismatch_iff (a b : Nat) : cfgVersionMismatch a b = true ↔ a ≠ b := by
  simp [cfgVersionMismatch]

theorem jsVersionMismatch_iff (a b : Nat) : jsVersionMismatch a b = true ↔ a ≠ b := by
  simp [jsVersionMismatch]

theorem checkCfgMismatch_iff (a b : Nat) : checkCfgMismatch a b = true ↔ a ≠ b := by
  simp [checkCfgMismatch]

theorem checkJsMismatch_iff (a b : Nat) : checkJsMismatch a b = true ↔ a ≠ b := by
  simp [checkJsMismatch]

theorem promoteRefused_iff (s : Option Nat) : promoteRefused s = true ↔ s ≠ none := by
  cases s <;> simp [promoteRefused, hasSubmitter]

theorem demoteAssert_iff (s : Option Nat) (h : Nat) : demoteAssert s h = true ↔ s = some h := by
  simp [demoteAssert, amISubmitter]

theorem cfgChanged_iff (c : CfgView) (x y : Option Snap) :
    cfgChanged (Snap.cfg c) x y = true ↔ x ≠ some (Snap.cfg c) := by
  simp only [cfgChanged, bne_iff_ne, ne_eq]
  exact ⟨fun h e => h e.symm, fun h e => h e.symm⟩

theorem cfgVersionBump_eq (v : Nat) : cfgVersionBump v = v + 1 := rfl
theorem jsVersionBump_eq (v : Nat) : jsVersionBump v = v + 1 := rfl

theorem markCompleteAssert_iff (b : Bool) : markCompleteAssert b = true ↔ b = false := by
  cases b <;> simp [markCompleteAssert]

theorem resubmitAssert_iff (b : Bool) : resubmitAssert b = true ↔ b = true := by
  simp [resubmitAssert]

theorem submitAssert_iff (st : JState) : submitAssert st = true ↔ st ≠ .submitted := by
  cases st <;> simp [submitAssert]

theorem blockedAssert_iff (st : JState) : blockedAssert st = true ↔ st = .notSubmitted := by
  cases st <;> simp [blockedAssert]

theorem completeAssert_iff (b : Bool) : completeAssert b = true ↔ b = false := by
  cases b <;> simp [completeAssert]

theorem clearBlockers_iff (bl : List Nat) (st : JState) :
    clearBlockers bl st = true ↔ bl ≠ [] ∧ (st = .submitted ∨ st = .done) := by
  cases st <;> cases bl <;> simp [clearBlockers]

theorem submittedAfterSubmit_eq (n : Nat) : submittedAfterSubmit n = n + 1 := rfl
theorem submittedAfterCancel_eq (n : Nat) : submittedAfterCancel n = n + 1 := rfl
theorem completedAfterComplete_eq (n : Nat) : completedAfterComplete n = n + 1 := rfl
theorem submitNewState_eq : submitNewState = JState.submitted := rfl
theorem completeNewState_eq : completeNewState = JState.done := rfl
theorem markerAfterException_eq : markerAfterException = true := rfl
theorem resubmitLocked_eq : resubmitLocked = false := rfl

/-! ## 2. serialization -/

/-- the three outcomes of `_serialize` -/
theorem serializeCfg_cases (d : Disk) (x : Handle) :
    (x.cfg.version ≠ d.cfgVer ∧ serializeCfg d x = (d, x, some .versionMismatch)) ∨
    (x.cfg.version = d.cfgVer ∧ x.cfgHash = some (Snap.cfg x.cfg) ∧ serializeCfg d x = (d, x, none)) ∨
    (x.cfg.version = d.cfgVer ∧ x.cfgHash ≠ some (Snap.cfg x.cfg) ∧
      serializeCfg d x =
        ({ d with cfgVer := x.cfg.version + 1, cfg := { x.cfg with version := x.cfg.version + 1 }, cfgMissing := false },
         { x with cfg := { x.cfg with version := x.cfg.version + 1 },
                  cfgHash := some (Snap.cfg { x.cfg with version := x.cfg.version + 1 }) }, none)) := by
  by_cases hv : x.cfg.version = d.cfgVer <;> by_cases hc : x.cfgHash = some (Snap.cfg x.cfg) <;>
    simp [serializeCfg, cfgVersionMismatch_iff, cfgChanged_iff, hv, hc, cfgVersionBump]

/-- the outcomes of `_serialize_jobs` -/
theorem serializeJs_cases (d : Disk) (x : Handle) (j : JsView) :
    (j.version ≠ d.jsVer ∧ serializeJs d x j = (d, x, some .versionMismatch)) ∨
    (j.version = d.jsVer ∧ jsChanged (Snap.js j) x.cfgHash x.jsHash = false ∧ serializeJs d x j = (d, x, none)) ∨
    (j.version = d.jsVer ∧ jsChanged (Snap.js j) x.cfgHash x.jsHash = true ∧
      serializeJs d x j =
        ({ d with jsVer := j.version + 1, js := { j with version := j.version + 1 } },
         { x with js := some { j with version := j.version + 1 },
                  jsHash := some (Snap.js { j with version := j.version + 1 }) }, none)) := by
  by_cases hv : j.version = d.jsVer <;> cases hc : jsChanged (Snap.js j) x.cfgHash x.jsHash <;>
    simp [serializeJs, jsVersionMismatch_iff, hv, hc, jsVersionBump]

theorem serializeCfg_rest (d : Disk) (x : Handle) :
    (serializeCfg d x).1.js = d.js ∧ (serializeCfg d x).1.jsVer = d.jsVer ∧ (serializeCfg d x).1.marker = d.marker ∧
    (serializeCfg d x).2.1.host = x.host ∧ (serializeCfg d x).2.1.js = x.js ∧
    (serializeCfg d x).2.1.cfg.submitter = x.cfg.submitter := by
  rcases serializeCfg_cases d x with ⟨_, h⟩ | ⟨_, _, h⟩ | ⟨_, _, h⟩ <;> simp [h]

theorem serializeJs_cfg (d : Disk) (x : Handle) (j : JsView) : (serializeJs d x j).2.1.cfg = x.cfg := by
  rcases serializeJs_cases d x j with ⟨_, h⟩ | ⟨_, _, h⟩ | ⟨_, _, h⟩ <;> simp [h]

/-! ## 3. `_update_job_status` loops: what they never touch, what they raise -/

theorem forEach_nil {α : Type} (f : α → Mem → Mem × Option Err) (m : Mem) : forEach f [] m = (m, none) := rfl

theorem forEach_cons_ok {α : Type} (f : α → Mem → Mem × Option Err) (a : α) (as : List α) (m m' : Mem)
    (h : f a m = (m', none)) : forEach f (a :: as) m = forEach f as m' := by
  rw [forEach, h]

theorem forEach_cons_err {α : Type} (f : α → Mem → Mem × Option Err) (a : α) (as : List α) (m m' : Mem) (e : Err)
    (h : f a m = (m', some e)) : forEach f (a :: as) m = (m', some e) := by
  rw [forEach, h]

/-- fields of the in-memory pair that no loop of `_update_job_status` changes -/
structure Frame (m m' : Mem) : Prop where
  version : m'.cfg.version = m.cfg.version
  submitter : m'.cfg.submitter = m.cfg.submitter
  numJobs : m'.cfg.numJobs = m.cfg.numJobs
  isComplete : m'.cfg.isComplete = m.cfg.isComplete
  isCanceled : m'.cfg.isCanceled = m.cfg.isCanceled
  jsVersion : m'.js.version = m.js.version
  length : m'.js.jobs.length = m.js.jobs.length

theorem Frame.refl (m : Mem) : Frame m m := ⟨rfl, rfl, rfl, rfl, rfl, rfl, rfl⟩

theorem Frame.trans {a b c : Mem} (h1 : Frame a b) (h2 : Frame b c) : Frame a c :=
  ⟨h2.1.trans h1.1, h2.2.trans h1.2, h2.3.trans h1.3, h2.4.trans h1.4, h2.5.trans h1.5, h2.6.trans h1.6,
   h2.7.trans h1.7⟩

/-- the loops of `_update_job_status` raise nothing but AssertionError and KeyError -/
def UpdErr (e : Option Err) : Prop := e = none ∨ e = some .assertion ∨ e = some .keyError

def Tame (m : Mem) (r : Mem × Option Err) : Prop := Frame m r.1 ∧ UpdErr r.2

theorem forEach_tame {α : Type} (f : α → Mem → Mem × Option Err) (hf : ∀ a m, Tame m (f a m)) :
    ∀ (l : List α) (m : Mem), Tame m (forEach f l m)
  | [], m => ⟨Frame.refl m, .inl rfl⟩
  | a :: as, m => by
    have h1 := hf a m
    unfold forEach
    split
    · next m' heq =>
      rw [heq] at h1
      exact ⟨h1.1.trans (forEach_tame f hf as m').1, (forEach_tame f hf as m').2⟩
    · exact h1

theorem andThen_tame {m0 : Mem} {r : Mem × Option Err} {f : Mem → Mem × Option Err} (h1 : Tame m0 r)
    (hf : ∀ m, Tame m (f m)) : Tame m0 (andThen r f) := by
  obtain ⟨m, _ | e⟩ := r
  · exact ⟨h1.1.trans (hf m).1, (hf m).2⟩
  · exact h1

theorem submitOne_tame (j : JobId) (m : Mem) : Tame m (submitOne j m) := by
  unfold submitOne
  split <;> (try split) <;> exact ⟨⟨rfl, rfl, rfl, rfl, rfl, rfl, by simp [Mem.setJob]⟩, by simp [UpdErr]⟩

theorem blockOne_tame (b : JobId × List JobId) (m : Mem) : Tame m (blockOne b m) := by
  unfold blockOne
  split <;> (try split) <;> exact ⟨⟨rfl, rfl, rfl, rfl, rfl, rfl, by simp [Mem.setJob]⟩, by simp [UpdErr]⟩

theorem completeOne_tame (p : List JobId) (j : JobId) (m : Mem) : Tame m (completeOne p j m) := by
  unfold completeOne
  split <;> (try split) <;> exact ⟨⟨rfl, rfl, rfl, rfl, rfl, rfl, by simp [Mem.setJob]⟩, by simp [UpdErr]⟩

theorem applyUpdate_tame (a : UpdateArgs) (m : Mem) : Tame m (applyUpdate a m) := by
  have h0 := forEach_tame _ submitOne_tame a.submitted
    { m with js := { m.js with hpcIds := a.hpcIds, batchIdx := a.batchIdx } }
  exact andThen_tame (andThen_tame (andThen_tame (andThen_tame
    ⟨⟨h0.1.1, h0.1.2, h0.1.3, h0.1.4, h0.1.5, h0.1.6, h0.1.7⟩, h0.2⟩
    (forEach_tame _ blockOne_tame _))
    (forEach_tame _ (fun _ _ => ⟨⟨rfl, rfl, rfl, rfl, rfl, rfl, rfl⟩, .inl rfl⟩) _))
    (forEach_tame _ (completeOne_tame _) _))
    fun _ => ⟨⟨rfl, rfl, rfl, rfl, rfl, rfl, by simp [clearAll]⟩, .inl rfl⟩

/-! ## 4. effect of a private method on the disk and on the acting handle -/

/-- the config pair: untouched, or written by a handle whose copy was current -/
def EffCfg (d : Disk) (x : Handle) (d' : Disk) (x' : Handle) : Prop :=
  (d'.cfg = d.cfg ∧ d'.cfgVer = d.cfgVer ∧ d'.cfgMissing = d.cfgMissing ∧
     x'.cfg.version = x.cfg.version ∧ x'.cfgHash = x.cfgHash) ∨
  (x.cfg.version = d.cfgVer ∧ d'.cfgVer = d.cfgVer + 1 ∧ d'.cfg = x'.cfg ∧ d'.cfgMissing = false ∧
     x'.cfg.version = d.cfgVer + 1 ∧ x'.cfgHash = some (Snap.cfg x'.cfg))

/-- the job-status pair: untouched (the handle keeps its copy's version or has just loaded the disk's), or written
    by a handle whose copy was current -/
def EffJs (d : Disk) (x : Handle) (d' : Disk) (x' : Handle) : Prop :=
  (d'.js = d.js ∧ d'.jsVer = d.jsVer ∧
     ∀ j' : JsView, x'.js = some j' → (∃ j : JsView, x.js = some j ∧ j'.version = j.version) ∨ j' = d.js) ∨
  (∃ j : JsView, x.js = some j ∧ j.version = d.jsVer ∧ d'.jsVer = d.jsVer + 1 ∧ x'.js = some d'.js ∧
     d'.js.version = d.jsVer + 1)

structure Eff (d : Disk) (x : Handle) (o : Out) : Prop where
  host : o.2.1.host = x.host
  marker : o.1.marker = d.marker
  cfg : EffCfg d x o.1 o.2.1
  js : EffJs d x o.1 o.2.1

/-- `Eff` of a method invoked on `x`, whose outcome has the in-memory submitter of `x1`, the handle after the method's own
    assignments: every method but `_promote_to_submitter` / `_demote_from_submitter` has `EffS d x x` -/
def EffS (d : Disk) (x x1 : Handle) (o : Out) : Prop := Eff d x o ∧ o.2.1.cfg.submitter = x1.cfg.submitter

theorem EffS.of_eq {d : Disk} {x x1 x2 : Handle} {o : Out} (h : EffS d x x1 o)
    (e : x1.cfg.submitter = x2.cfg.submitter) : EffS d x x2 o :=
  ⟨h.1, h.2.trans e⟩

/-- an outcome that leaves disk and (up to in-memory config fields) handle alone -/
theorem eff_noop (d : Disk) (x x1 : Handle) (r : Res) (hv : x1.cfg.version = x.cfg.version)
    (hh : x1.cfgHash = x.cfgHash) (hhost : x1.host = x.host)
    (hjs : ∀ j' : JsView, x1.js = some j' → (∃ j : JsView, x.js = some j ∧ j'.version = j.version) ∨ j' = d.js) :
    EffS d x x1 (d, x1, r) :=
  ⟨⟨hhost, rfl, Or.inl ⟨rfl, rfl, rfl, hv, hh⟩, Or.inl ⟨rfl, rfl, hjs⟩⟩, rfl⟩

theorem keepJs (x : Handle) (d : Disk) :
    ∀ j' : JsView, x.js = some j' → (∃ j : JsView, x.js = some j ∧ j'.version = j.version) ∨ j' = d.js :=
  fun j' h => Or.inl ⟨j', h, rfl⟩

/-- `_serialize` by `x1`, which differs from `x` only in in-memory config fields and job-status content -/
theorem serializeCfg_eff (d : Disk) (x x1 : Handle) (r : Res) (hv : x1.cfg.version = x.cfg.version)
    (hh : x1.cfgHash = x.cfgHash) (hhost : x1.host = x.host)
    (hjs : ∀ j' : JsView, x1.js = some j' → (∃ j : JsView, x.js = some j ∧ j'.version = j.version) ∨ j' = d.js) :
    EffS d x x1 ((serializeCfg d x1).1, (serializeCfg d x1).2.1, r) := by
  rcases serializeCfg_cases d x1 with ⟨_, h⟩ | ⟨_, _, h⟩ | ⟨h1, _, h⟩ <;> rw [h]
  · exact eff_noop d x x1 r hv hh hhost hjs
  · exact eff_noop d x x1 r hv hh hhost hjs
  · exact ⟨⟨hhost, rfl, .inr ⟨hv ▸ h1, by simp [h1], rfl, rfl, by simp [h1], rfl⟩, .inl ⟨rfl, rfl, hjs⟩⟩, rfl⟩

theorem EffS.thenJs {d : Disk} {x x1 : Handle} {o : Out} (he : EffS d x x1 o) {j0 j : JsView} (r : Res)
    (hd : o.1.js = d.js) (hd' : o.1.jsVer = d.jsVer) (hx : x.js = some j0) (hjv : j0.version = j.version)
    (ho : o.2.1.js = some j) :
    EffS d x x1 ((serializeJs o.1 o.2.1 j).1, (serializeJs o.1 o.2.1 j).2.1, r) := by
  have keep : ∀ j' : JsView, o.2.1.js = some j' → (∃ j : JsView, x.js = some j ∧ j'.version = j.version) ∨ j' = d.js :=
    fun j' h => .inl ⟨j0, hx, by rw [ho] at h; cases h; exact hjv.symm⟩
  refine ⟨?_, (congrArg CfgView.submitter (serializeJs_cfg o.1 o.2.1 j)).trans he.2⟩
  obtain ⟨he, _⟩ := he
  rcases serializeJs_cases o.1 o.2.1 j with ⟨_, h⟩ | ⟨_, _, h⟩ | ⟨h1, _, h⟩ <;> rw [h]
  · exact ⟨he.host, he.marker, he.cfg, .inl ⟨hd, hd', keep⟩⟩
  · exact ⟨he.host, he.marker, he.cfg, .inl ⟨hd, hd', keep⟩⟩
  · exact ⟨he.host, he.marker, he.cfg,
      .inr ⟨j0, hx, hjv.trans (h1.trans hd'), by simp [h1, hd'], rfl, by simp [h1, hd']⟩⟩

/-- `_serialize` followed by `_serialize_jobs` -/
theorem serializeBoth_eff (d : Disk) (x x1 : Handle) (j : JsView) (hv : x1.cfg.version = x.cfg.version)
    (hh : x1.cfgHash = x.cfgHash) (hhost : x1.host = x.host)
    (hx : ∃ j0 : JsView, x.js = some j0 ∧ j0.version = j.version) (hx1 : x1.js = some j) :
    EffS d x x1 (serializeBoth d x1 j) := by
  obtain ⟨j0, hj0, hjv⟩ := hx
  have he := fun r => serializeCfg_eff d x x1 r hv hh hhost
    fun j' h => .inl ⟨j0, hj0, by rw [hx1] at h; cases h; exact hjv.symm⟩
  obtain ⟨c1, c2, _, _, c5, _⟩ := serializeCfg_rest d x1
  unfold serializeBoth
  simp only
  split
  · exact he _
  · exact (he .ok).thenJs _ c1 c2 hj0 hjv (c5.trans hx1)

theorem doPromote_eff (d : Disk) (x : Handle) : Eff d x (doPromote d x) := by
  unfold doPromote
  split
  · exact (eff_noop d x x _ rfl rfl rfl (keepJs x d)).1
  · exact And.left (serializeCfg_eff d x _ _ rfl rfl rfl (keepJs x d))

theorem doDemote_eff (d : Disk) (x : Handle) : Eff d x (doDemote d x) := by
  unfold doDemote
  split
  · exact And.left (serializeCfg_eff d x _ _ rfl rfl rfl (keepJs x d))
  · exact (eff_noop d x x _ rfl rfl rfl (keepJs x d)).1

theorem doMarkComplete_eff (d : Disk) (x : Handle) : EffS d x x (doMarkComplete d x) := by
  unfold doMarkComplete
  split
  · exact serializeCfg_eff d x _ _ rfl rfl rfl (keepJs x d)
  · exact eff_noop d x x _ rfl rfl rfl (keepJs x d)

theorem doMarkCanceled_eff (d : Disk) (x : Handle) : EffS d x x (doMarkCanceled d x) :=
  serializeCfg_eff d x _ _ rfl rfl rfl (keepJs x d)

theorem doDeserializeJobs_eff (d : Disk) (x : Handle) : EffS d x x (doDeserializeJobs d x) :=
  eff_noop d x _ _ rfl rfl rfl fun _ h => .inr (Option.some.inj h).symm

theorem doAllComplete_eff (d : Disk) (x : Handle) : EffS d x x (doAllComplete d x) := by
  unfold doAllComplete
  split <;> exact eff_noop d x x _ rfl rfl rfl (keepJs x d)

theorem doCompleteHpcId_eff (id : Nat) (d : Disk) (x : Handle) : EffS d x x (doCompleteHpcId id d x) := by
  unfold doCompleteHpcId
  split
  · exact eff_noop d x x _ rfl rfl rfl (keepJs x d)
  · next j hj =>
    split
    · exact (eff_noop d x { x with js := some { j with hpcIds := j.hpcIds.erase id } } .ok rfl rfl rfl
        fun _ h => .inl ⟨j, hj, by cases h; rfl⟩).thenJs _ rfl rfl hj rfl rfl
    · exact eff_noop d x x _ rfl rfl rfl (keepJs x d)

theorem doUpdate_eff (a : UpdateArgs) (d : Disk) (x : Handle) : EffS d x x (doUpdate a d x) := by
  unfold doUpdate
  split
  · exact eff_noop d x x _ rfl rfl rfl (keepJs x d)
  · split
    · exact eff_noop d x x _ rfl rfl rfl (keepJs x d)
    · next j hj =>
      have hf := (applyUpdate_tame a { cfg := x.cfg, js := j }).1
      simp only
      split
      · exact .of_eq (eff_noop d x _ _ hf.version rfl rfl fun _ h => .inl ⟨j, hj, by cases h; exact hf.jsVersion⟩)
          hf.submitter
      · exact .of_eq (serializeBoth_eff d x _ _ hf.version rfl rfl ⟨j, hj, hf.jsVersion.symm⟩ rfl) hf.submitter

theorem doPrepareResubmit_eff (sel : List JobId) (bl : List (JobId × List JobId)) (d : Disk) (x : Handle) :
    EffS d x x (doPrepareResubmit sel bl d x) := by
  unfold doPrepareResubmit
  split
  · split
    · exact eff_noop d x _ _ rfl rfl rfl (keepJs x d)
    · next j hj => exact serializeBoth_eff d x _ _ rfl rfl rfl ⟨j, hj, rfl⟩ rfl
  · exact eff_noop d x x _ rfl rfl rfl (keepJs x d)

/-! ## 5. the lock wrapper, promote / demote / load in detail, `create` -/

/-- a locked call by an existing handle while the lock is free -/
theorem locked_run (s : Sys) (h : Hid) (f : Disk → Handle → Out) (x : Handle) (hx : s.handles h = some x)
    (hm : s.disk.marker = false) :
    locked s h f = (({ s with disk := { (f s.disk x).1 with marker := markerAfter (f s.disk x).2.2 } }).setHandle h
        (f s.disk x).2.1, (f s.disk x).2.2) := by
  simp [locked, hx, hm]

theorem unlocked_run (s : Sys) (h : Hid) (f : Disk → Handle → Out) (x : Handle) (hx : s.handles h = some x) :
    unlocked s h f = (({ s with disk := (f s.disk x).1 }).setHandle h (f s.disk x).2.1, (f s.disk x).2.2) := by
  simp [unlocked, hx]

theorem locked_cases (s : Sys) (h : Hid) (f : Disk → Handle → Out) :
    (s.handles h = none ∧ locked s h f = (s, .noHandle)) ∨
    (∃ x : Handle, s.handles h = some x ∧ s.disk.marker = true ∧ locked s h f = (s, .err .lockTimeout)) ∨
    (∃ x : Handle, s.handles h = some x ∧ s.disk.marker = false ∧
      locked s h f = (({ s with disk := { (f s.disk x).1 with marker := markerAfter (f s.disk x).2.2 } }).setHandle h
        (f s.disk x).2.1, (f s.disk x).2.2)) := by
  cases hx : s.handles h with
  | none => exact .inl ⟨rfl, by simp [locked, hx]⟩
  | some x =>
    cases hm : s.disk.marker with
    | true => exact .inr (.inl ⟨x, rfl, rfl, by simp [locked, hx, hm]⟩)
    | false => exact .inr (.inr ⟨x, rfl, rfl, locked_run s h f x hx hm⟩)

theorem unlocked_cases (s : Sys) (h : Hid) (f : Disk → Handle → Out) :
    (s.handles h = none ∧ unlocked s h f = (s, .noHandle)) ∨
    (∃ x : Handle, s.handles h = some x ∧
      unlocked s h f = (({ s with disk := (f s.disk x).1 }).setHandle h (f s.disk x).2.1, (f s.disk x).2.2)) := by
  cases hx : s.handles h with
  | none => exact .inl ⟨rfl, by simp [unlocked, hx]⟩
  | some x => exact .inr ⟨x, rfl, unlocked_run s h f x hx⟩

/-- the handle after the in-memory assignment of `_promote_to_submitter` -/
def promoted (x : Handle) : Handle := { x with cfg := { x.cfg with submitter := some x.host } }
/-- … of `_demote_from_submitter` -/
def demoted (x : Handle) : Handle := { x with cfg := { x.cfg with submitter := none } }

theorem doPromote_cases (d : Disk) (x : Handle) :
    (x.cfg.submitter ≠ none ∧ doPromote d x = (d, x, .bool false)) ∨
    (x.cfg.submitter = none ∧ x.cfg.version ≠ d.cfgVer ∧ doPromote d x = (d, promoted x, .err .versionMismatch)) ∨
    (x.cfg.submitter = none ∧ x.cfg.version = d.cfgVer ∧ x.cfgHash = some (Snap.cfg (promoted x).cfg) ∧
      doPromote d x = (d, promoted x, .bool true)) ∨
    (x.cfg.submitter = none ∧ x.cfg.version = d.cfgVer ∧ x.cfgHash ≠ some (Snap.cfg (promoted x).cfg) ∧
      doPromote d x =
        ({ d with cfgVer := x.cfg.version + 1, cfg := { (promoted x).cfg with version := x.cfg.version + 1 },
                  cfgMissing := false },
         { promoted x with cfg := { (promoted x).cfg with version := x.cfg.version + 1 },
                           cfgHash := some (Snap.cfg { (promoted x).cfg with version := x.cfg.version + 1 }) },
         .bool true)) := by
  by_cases hs : x.cfg.submitter = none
  · have hr : doPromote d x = ((serializeCfg d (promoted x)).1, (serializeCfg d (promoted x)).2.1,
        match (serializeCfg d (promoted x)).2.2 with | none => .bool true | some e => .err e) := by
      rw [doPromote, if_neg (by simp [promoteRefused_iff, hs])]; rfl
    rw [hr]
    rcases serializeCfg_cases d (promoted x) with ⟨h1, h2⟩ | ⟨h1, h2, h3⟩ | ⟨h1, h2, h3⟩
    · exact .inr (.inl ⟨hs, h1, by rw [h2]⟩)
    · exact .inr (.inr (.inl ⟨hs, h1, h2, by rw [h3]⟩))
    · exact .inr (.inr (.inr ⟨hs, h1, h2, by rw [h3]; rfl⟩))
  · exact .inl ⟨hs, by simp [doPromote, promoteRefused_iff, hs]⟩

theorem doDemote_cases (d : Disk) (x : Handle) :
    (x.cfg.submitter ≠ some x.host ∧ doDemote d x = (d, x, .err .assertion)) ∨
    (x.cfg.submitter = some x.host ∧ x.cfg.version ≠ d.cfgVer ∧ doDemote d x = (d, demoted x, .err .versionMismatch)) ∨
    (x.cfg.submitter = some x.host ∧ x.cfg.version = d.cfgVer ∧ x.cfgHash = some (Snap.cfg (demoted x).cfg) ∧
      doDemote d x = (d, demoted x, .ok)) ∨
    (x.cfg.submitter = some x.host ∧ x.cfg.version = d.cfgVer ∧ x.cfgHash ≠ some (Snap.cfg (demoted x).cfg) ∧
      doDemote d x =
        ({ d with cfgVer := x.cfg.version + 1, cfg := { (demoted x).cfg with version := x.cfg.version + 1 },
                  cfgMissing := false },
         { demoted x with cfg := { (demoted x).cfg with version := x.cfg.version + 1 },
                          cfgHash := some (Snap.cfg { (demoted x).cfg with version := x.cfg.version + 1 }) },
         .ok)) := by
  by_cases hs : x.cfg.submitter = some x.host
  · have hr : doDemote d x = ((serializeCfg d (demoted x)).1, (serializeCfg d (demoted x)).2.1,
        resOf (serializeCfg d (demoted x)).2.2) := by
      rw [doDemote, if_pos ((demoteAssert_iff _ _).2 hs)]; rfl
    rw [hr]
    rcases serializeCfg_cases d (demoted x) with ⟨h1, h2⟩ | ⟨h1, h2, h3⟩ | ⟨h1, h2, h3⟩
    · exact .inr (.inl ⟨hs, h1, by rw [h2]; rfl⟩)
    · exact .inr (.inr (.inl ⟨hs, h1, h2, by rw [h3]; rfl⟩))
    · exact .inr (.inr (.inr ⟨hs, h1, h2, by rw [h3]; rfl⟩))
  · exact .inl ⟨hs, by simp [doDemote, demoteAssert_iff, hs]⟩

/-- the disk and the handle after a successful promotion of a fresh handle -/
def loadDisk (host : Host) (d : Disk) : Disk :=
  { d with cfgVer := d.cfg.version + 1,
           cfg := { (promoted (newHandle host d)).cfg with version := d.cfg.version + 1 },
           cfgMissing := false }

def loadHandle (host : Host) (d : Disk) : Handle :=
  { promoted (newHandle host d) with
      cfg := { (promoted (newHandle host d)).cfg with version := d.cfg.version + 1 },
      cfgHash := some (Snap.cfg { (promoted (newHandle host d)).cfg with version := d.cfg.version + 1 }) }

theorem doLoad_cases (host : Host) (p j : Bool) (d : Disk) (hpres : d.cfgMissing = false)
    (hagree : d.cfg.version = d.cfgVer) :
    ((p = false ∨ d.cfg.submitter ≠ none) ∧
      doLoad host p j d = (d, some (withJobs j d (newHandle host d)), .bool false)) ∨
    (p = true ∧ d.cfg.submitter = none ∧
      doLoad host p j d = (loadDisk host d, some (withJobs j (loadDisk host d) (loadHandle host d)), .bool true)) := by
  unfold doLoad
  cases p with
  | false => exact .inl ⟨.inl rfl, by simp [hpres, Res.isExc]⟩
  | true =>
    rcases doPromote_cases d (newHandle host d) with ⟨c1, c2⟩ | ⟨_, c2, _⟩ | ⟨_, _, c3, _⟩ | ⟨c1, _, _, c4⟩
    · exact .inl ⟨.inr c1, by simp [hpres, c2, Res.isExc]⟩
    · exact absurd hagree c2
    · cases c3
    · exact .inr ⟨rfl, c1, by simp [hpres, c4, Res.isExc]; exact ⟨rfl, rfl⟩⟩

/-- the config of a new submission, as serialized by `create` -/
def createCfg (host : Host) (n : Nat) : CfgView :=
  { submitter := some host, submitted := 0, completed := 0, numJobs := n, isComplete := false, isCanceled := false,
    version := 1 }

/-- the job status of a new submission, as serialized by `create` -/
def createJs (spec : List (List JobId × Bool)) : JsView :=
  { jobs := createJobs spec, hpcIds := [], batchIdx := 1, version := 1 }

theorem create_eq (host : Host) (spec : List (List JobId × Bool)) (brk : Bool) :
    create host spec brk =
      { disk := { cfg := createCfg host spec.length, cfgMissing := false, cfgVer := 1, js := createJs spec, jsVer := 1,
                  marker := false },
        handles := fun q => if q = 0 then some { host := host, cfg := createCfg host spec.length,
                                                  js := some (createJs spec),
                                                  cfgHash := some (Snap.cfg (createCfg host spec.length)),
                                                  jsHash := some (Snap.js (createJs spec)) } else none,
        breakStale := brk } := rfl

/-! ## 6. one operation -/

/-- `jade show-status` binds no handle and does not promote: it only ever touches the lock marker -/
theorem step_read (s : Sys) : ∃ m : Bool, (step s .read).1 = { s with disk := { s.disk with marker := m } } := by
  have hst : (step s .read).1 = (loadOp s none 0 false true).1 := by
    simp only [step]
    split <;> simp_all
  rw [hst]
  unfold loadOp doLoad
  split
  · exact ⟨s.disk.marker, rfl⟩
  · split <;> exact ⟨_, rfl⟩

theorem Sys.setHandle_some {s : Sys} {h q : Hid} {y z : Handle} (hz : (s.setHandle h y).handles q = some z) :
    s.handles q = some z ∨ z = y := by
  simp only [Sys.setHandle] at hz
  split at hz
  · exact Or.inr (Option.some.inj hz).symm
  · exact Or.inl hz

theorem Sys.setHandle_self (s : Sys) (h : Hid) (y : Handle) : (s.setHandle h y).handles h = some y := by
  simp [Sys.setHandle]

/-- The method kept the in-memory submitter (all but `_promote_to_submitter` / `_demote_from_submitter` do), or it left a
    handle that is out of date or remembers the hash of its own config copy (what `_serialize` leaves). -/
def KeepsSubmitter (x : Handle) (o : Out) : Prop :=
  o.2.1.cfg.submitter = x.cfg.submitter ∨ o.2.1.cfg.version ≠ o.1.cfgVer ∨ o.2.1.cfgHash = some (Snap.cfg o.2.1.cfg)

theorem EffS.keeps {d : Disk} {x : Handle} {o : Out} (h : EffS d x x o) : Eff d x o ∧ KeepsSubmitter x o :=
  ⟨h.1, .inl h.2⟩

theorem serializeCfg_keeps (d : Disk) (x x1 : Handle) (r : Res) :
    KeepsSubmitter x ((serializeCfg d x1).1, (serializeCfg d x1).2.1, r) := by
  rcases serializeCfg_cases d x1 with ⟨h1, h⟩ | ⟨_, h2, h⟩ | ⟨_, _, h⟩ <;> rw [h]
  · exact .inr (.inl h1)
  · exact .inr (.inr h2)
  · exact .inr (.inr rfl)

theorem doPromote_keeps (d : Disk) (x : Handle) : KeepsSubmitter x (doPromote d x) := by
  unfold doPromote
  split
  · exact .inl rfl
  · exact serializeCfg_keeps d x _ _

theorem doDemote_keeps (d : Disk) (x : Handle) : KeepsSubmitter x (doDemote d x) := by
  unfold doDemote
  split
  · exact serializeCfg_keeps d x _ _
  · exact .inl rfl

/-- `s'` is what `s` becomes when a handle `x` — one of the system's, or a fresh one — runs a private method: the files
    are those of the method's outcome, the lock marker aside, and beside the old handles there is at most the outcome's -/
def Acted (s : Sys) (x : Handle) (s' : Sys) : Prop :=
  ∃ (o : Out) (m : Bool), Eff s.disk x o ∧ KeepsSubmitter x o ∧ s'.disk = { o.1 with marker := m } ∧
    ∀ (q : Hid) (y : Handle), s'.handles q = some y → s.handles q = some y ∨ y = o.2.1

theorem locked_acted (s : Sys) (h : Hid) (f : Disk → Handle → Out)
    (hE : ∀ (d : Disk) (x : Handle), Eff d x (f d x) ∧ KeepsSubmitter x (f d x)) :
    (locked s h f).1 = s ∨ ∃ x : Handle, s.handles h = some x ∧ Acted s x (locked s h f).1 := by
  rcases locked_cases s h f with ⟨_, h2⟩ | ⟨x, _, _, h2⟩ | ⟨x, hx, _, h2⟩ <;> rw [h2]
  · exact Or.inl rfl
  · exact Or.inl rfl
  · exact Or.inr ⟨x, hx, _, _, (hE s.disk x).1, (hE s.disk x).2, rfl, fun _ _ => Sys.setHandle_some⟩

theorem unlocked_acted (s : Sys) (h : Hid) (f : Disk → Handle → Out)
    (hE : ∀ (d : Disk) (x : Handle), Eff d x (f d x) ∧ KeepsSubmitter x (f d x)) :
    (unlocked s h f).1 = s ∨ ∃ x : Handle, s.handles h = some x ∧ Acted s x (unlocked s h f).1 := by
  rcases unlocked_cases s h f with ⟨_, h2⟩ | ⟨x, hx, h2⟩ <;> rw [h2]
  · exact Or.inl rfl
  · exact Or.inr ⟨x, hx, _, (f s.disk x).1.marker, (hE s.disk x).1, (hE s.disk x).2, rfl,
      fun _ _ => Sys.setHandle_some⟩

/-- an in-memory mutation does nothing, or is the outcome of a method that leaves the files and the handle's versions alone -/
theorem memJob_cases (s : Sys) (h : Hid) (j : JobId) (f : JobView → JobView) :
    (memJob s h j f).1 = s ∨ ∃ x y : Handle, s.handles h = some x ∧ EffS s.disk x x (s.disk, y, .ok) ∧
      (memJob s h j f).1 = s.setHandle h y := by
  unfold memJob
  split
  · exact .inl rfl
  · next x hx =>
    split
    · exact .inl rfl
    · next js hjs =>
      split
      · exact .inl rfl
      · next v _ =>
        exact .inr ⟨x, { x with js := some { js with jobs := js.jobs.set j (f v) } }, hx,
          eff_noop _ x _ _ rfl rfl rfl fun _ hj => .inl ⟨js, hjs, by cases hj; rfl⟩, rfl⟩

theorem memJob_disk (s : Sys) (h : Hid) (j : JobId) (f : JobView → JobView) : (memJob s h j f).1.disk = s.disk := by
  rcases memJob_cases s h j f with e | ⟨_, _, _, _, e⟩ <;> rw [e] <;> rfl

theorem memJob_acted (s : Sys) (h : Hid) (j : JobId) (f : JobView → JobView) :
    (memJob s h j f).1 = s ∨ ∃ x : Handle, s.handles h = some x ∧ Acted s x (memJob s h j f).1 := by
  rcases memJob_cases s h j f with e | ⟨x, y, hx, he, e⟩ <;> rw [e]
  · exact .inl rfl
  · exact .inr ⟨x, hx, _, s.disk.marker, he.1, .inl he.2, rfl, fun _ _ => Sys.setHandle_some⟩

/-- `_deserialize`: the fresh handle runs `_promote_to_submitter` or nothing, and is kept unless that raised -/
theorem doLoad_eff (host : Host) (p j : Bool) (d : Disk) :
    ∃ o : Out, Eff d (newHandle host d) o ∧ KeepsSubmitter (newHandle host d) o ∧ (doLoad host p j d).1 = o.1 ∧
      ∀ y : Handle, (doLoad host p j d).2.1 = some y → y = o.2.1 := by
  have hw : ∀ o : Out, Eff d (newHandle host d) o → KeepsSubmitter (newHandle host d) o →
      Eff d (newHandle host d) (o.1, withJobs j o.1 o.2.1, o.2.2) ∧
      KeepsSubmitter (newHandle host d) (o.1, withJobs j o.1 o.2.1, o.2.2) := by
    intro o he hk
    unfold withJobs
    split
    · refine ⟨⟨he.host, he.marker, he.cfg, ?_⟩, hk⟩
      rcases he.js with ⟨a1, a2, _⟩ | ⟨_, a1, _⟩
      · exact Or.inl ⟨a1, a2, fun j' hj' => Or.inr ((Option.some.inj hj').symm.trans a1)⟩
      · cases a1
    · exact ⟨he, hk⟩
  have noop := fun r => (eff_noop d (newHandle host d) _ r rfl rfl rfl (fun _ hj => nomatch hj)).keeps
  unfold doLoad
  split
  · exact ⟨_, (noop (.err .invalidConfig)).1, (noop _).2, rfl, fun _ hy => nomatch hy⟩
  · cases p
    · obtain ⟨he, hk⟩ := hw _ (noop (.bool false)).1 (noop _).2
      exact ⟨_, he, hk, rfl, fun _ hy => (Option.some.inj hy).symm⟩
    · obtain ⟨he, hk⟩ := hw _ (doPromote_eff d (newHandle host d)) (doPromote_keeps d _)
      refine ⟨_, he, hk, ?_, ?_⟩
      · simp only [if_true]; split <;> rfl
      · simp only [if_true]
        intro y hy
        split at hy
        · cases hy
        · exact (Option.some.inj hy).symm

theorem loadOp_acted (s : Sys) (slot : Option Hid) (host : Host) (p j : Bool) :
    (loadOp s slot host p j).1 = s ∨ Acted s (newHandle host s.disk) (loadOp s slot host p j).1 := by
  unfold loadOp
  split
  · exact Or.inl rfl
  · obtain ⟨o, he, hk, h1, h2⟩ := doLoad_eff host p j s.disk
    refine Or.inr ⟨o, markerAfter (doLoad host p j s.disk).2.2, he, hk, ?_, fun q y hy => ?_⟩
    · simp only [← h1]; split <;> rfl
    · simp only at hy
      split at hy
      · next x hx => exact (Sys.setHandle_some hy).imp_right (·.trans (h2 x hx))
      · exact Or.inl hy

theorem Op.mine_handle (s : Sys) (op : Op) (h : Hid) (x : Handle) (ha : op.actor = some h) (hx : s.handles h = some x) :
    op.mine s = (x.cfg.version, match x.js with | none => 0 | some j => j.version) := by
  cases op <;> cases ha <;> simp only [Op.mine, Op.actor, hx] <;> cases x.js <;> rfl

/-- What the API call `op` makes of `s`.  Nothing, the lock marker aside; or a handle `x` — the one in the call's slot, or
    the fresh one of a `load` — ran a private method (`Acted`), and `op.mine s` are the versions `x` held. -/
def Stepped (s : Sys) (op : Op) (s' : Sys) : Prop :=
  (∃ m : Bool, s' = { s with disk := { s.disk with marker := m } }) ∨
  ∃ x : Handle, ((∃ h : Hid, s.handles h = some x) ∨ ∃ host : Host, x = newHandle host s.disk) ∧
    op.mine s = (x.cfg.version, match x.js with | none => 0 | some j => j.version) ∧ Acted s x s'

theorem Stepped.of_actor {s s' : Sys} {op : Op} {h : Hid} (ha : op.actor = some h)
    (hs : s' = s ∨ ∃ x : Handle, s.handles h = some x ∧ Acted s x s') : Stepped s op s' := by
  rcases hs with rfl | ⟨x, hx, hs⟩
  · exact Or.inl ⟨s'.disk.marker, rfl⟩
  · exact Or.inr ⟨x, Or.inl ⟨h, hx⟩, Op.mine_handle s op h x ha hx, hs⟩

theorem step_stepped (s : Sys) (op : Op) (hnt : op.isTamper = false) : Stepped s op (step s op).1 := by
  cases op with
  | load h host p j =>
    rcases loadOp_acted s (some h) host p j with hs | hs
    · exact Or.inl ⟨s.disk.marker, hs⟩
    · exact Or.inr ⟨_, Or.inr ⟨host, rfl⟩, rfl, hs⟩
  | promote h => exact .of_actor rfl (locked_acted s h _ fun d x => ⟨doPromote_eff d x, doPromote_keeps d x⟩)
  | demote h => exact .of_actor rfl (locked_acted s h _ fun d x => ⟨doDemote_eff d x, doDemote_keeps d x⟩)
  | update h a => exact .of_actor rfl (locked_acted s h _ fun d x => (doUpdate_eff a d x).keeps)
  | markComplete h => exact .of_actor rfl (locked_acted s h _ fun d x => (doMarkComplete_eff d x).keeps)
  | markCanceled h => exact .of_actor rfl (locked_acted s h _ fun d x => (doMarkCanceled_eff d x).keeps)
  | completeHpcId h id => exact .of_actor rfl (locked_acted s h _ fun d x => (doCompleteHpcId_eff id d x).keeps)
  | deserializeJobs h => exact .of_actor rfl (locked_acted s h _ fun d x => (doDeserializeJobs_eff d x).keeps)
  | allComplete h => exact .of_actor rfl (locked_acted s h _ fun d x => (doAllComplete_eff d x).keeps)
  | prepareResubmit h sel bl =>
    simp only [step]
    split
    · exact .of_actor rfl (locked_acted s h _ fun d x => (doPrepareResubmit_eff sel bl d x).keeps)
    · exact .of_actor rfl (unlocked_acted s h _ fun d x => (doPrepareResubmit_eff sel bl d x).keeps)
  | read => exact Or.inl (step_read s)
  | breakMarker =>
    simp only [step]
    split
    · exact Or.inl ⟨false, rfl⟩
    · exact Or.inl ⟨s.disk.marker, rfl⟩
  | forgeCfgVer | forgeJsVer | rmCfg => cases hnt
  | memCancel h j | memUnblock h j _ => exact .of_actor rfl (memJob_acted s h j _)

end Jade.Cluster
