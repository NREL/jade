import JadeModel.Model.Config
import Mathlib.Data.String.Basic

/-!
Helper lemmas for C17 (`Props/C17.lean`).  The *generated* predicates are each characterised in one
lemma (`*_iff`); every loop of `run_checks` is characterised by one equation
`loop = if <what it verifies> then ok else error <the raise it reaches>`, from which both the
acceptance condition and the kind of the rejection are read off.
-/

namespace Jade.Config
open Jade.Gen.Config

/-! ## generated predicates, in plain terms -/

theorem popTest_iff (a b : J) : popTest a b = true ↔ a = b := by simp [popTest]
theorem nameUnset_iff (n : Option String) : nameUnset n = true ↔ n = none := by simp [nameUnset]
theorem idMissing_iff (i : Option Nat) : idMissing i = true ↔ i = none := by simp [idMissing]
theorem commandRejected_iff (s : String) : commandRejected s = true ↔ s = "" := by simp [commandRejected]
theorem nameTaken_iff (n : String) (l : List String) : nameTaken n l = true ↔ n ∈ l := by simp [nameTaken]
theorem groupListedTwice_iff (n : String) (l : List String) : groupListedTwice n l = true ↔ n ∈ l := by
  simp [groupListedTwice]
theorem hpcTypeDiffers_iff (a b : String) : hpcTypeDiffers a b = true ↔ a ≠ b := by simp [hpcTypeDiffers]
theorem paramDiffers_iff (a b : Option J) : paramDiffers a b = true ↔ a ≠ b := by simp [paramDiffers]
theorem jobGroupInvalid_iff (g : String) (l : List String) : jobGroupInvalid g l = true ↔ g ∉ l := by
  simp [jobGroupInvalid]
theorem estimateGuard_iff (n : Nat) : estimateGuard n = true ↔ n = 0 := by simp [estimateGuard]
theorem estimateMissing_iff (a b : String) (e : Option Nat) :
    estimateMissing a b e = true ↔ a = b ∧ e = none := by simp [estimateMissing]
theorem dependenciesBad_iff (blocking names : List String) :
    dependenciesBad (missingBlockers blocking names) = true ↔ ∃ b ∈ blocking, b ∉ names := by
  simp [dependenciesBad, missingBlockers, diffL, List.filter_eq_nil_iff]
theorem hasEstimate_iff (e : Option Nat) : hasEstimate e = true ↔ e.isSome = true := by simp [hasEstimate]
theorem runtimeTooLong_iff (m w : Nat) : runtimeTooLong m w = true ↔ w < 60 * m := by
  simp [runtimeTooLong]
theorem outputDirForced_iff (m : Bool) : outputDirForced m false = true ↔ m = true := by
  simp [outputDirForced]

/-! ## canonical string sets -/

theorem mem_insertS (x z : String) (l : List String) : z ∈ insertS x l ↔ z = x ∨ z ∈ l := by
  induction l <;> grind [insertS]

theorem mem_canonSet (z : String) (l : List String) : z ∈ canonSet l ↔ z ∈ l := by
  induction l with
  | nil => simp [canonSet]
  | cons x xs ih => rw [canonSet, List.foldr_cons, mem_insertS, ← canonSet, ih, List.mem_cons]

theorem pairwise_insertS (x : String) (l : List String) (h : l.Pairwise (· < ·)) :
    (insertS x l).Pairwise (· < ·) := by
  induction l with
  | nil => simp [insertS]
  | cons y ys ih => grind [insertS, mem_insertS, List.pairwise_cons]

theorem pairwise_canonSet (l : List String) : (canonSet l).Pairwise (· < ·) := by
  induction l with
  | nil => exact .nil
  | cons x xs ih => exact pairwise_insertS x _ ih

theorem sortedS_iff (l : List String) : sortedS l = true ↔ l.Pairwise (· < ·) := by simp [sortedS]

theorem canonSet_of_pairwise (l : List String) (h : l.Pairwise (· < ·)) : canonSet l = l := by
  induction l with
  | nil => rfl
  | cons x xs ih =>
    rw [List.pairwise_cons] at h
    rw [canonSet, List.foldr_cons, ← canonSet, ih h.2]
    cases xs <;> simp_all [insertS]

theorem canonSet_idem (l : List String) : canonSet (canonSet l) = canonSet l :=
  canonSet_of_pairwise _ (pairwise_canonSet l)

/-- the canonical form depends on the members only: two strictly increasing lists with the same
    members are permutations of each other, hence equal -/
theorem canonSet_ext (l l' : List String) (h : ∀ z, z ∈ l ↔ z ∈ l') : canonSet l = canonSet l' := by
  have p1 := pairwise_canonSet l
  have p2 := pairwise_canonSet l'
  have hp : (canonSet l).Perm (canonSet l') :=
    (List.perm_ext_iff_of_nodup (p1.imp ne_of_lt) (p2.imp ne_of_lt)).2
      fun z => by rw [mem_canonSet, mem_canonSet, h]
  exact hp.eq_of_pairwise (fun a b _ _ hab hba => absurd hba (lt_asymm hab)) p1 p2

/-! ## typed readers invert the renderers -/

@[simp] theorem asOptStr_optStrJ (x : Option String) : asOptStr (optStrJ x) = .ok x := by
  cases x <;> rfl
@[simp] theorem asOptNat_optNatJ (x : Option Nat) : asOptNat (optNatJ x) = .ok x := by
  cases x <;> rfl
@[simp] theorem asNat_natJ (n : Nat) : asNat (natJ n) = .ok n := rfl

theorem blockerStrs_str (l : List String) : blockerStrs (l.map J.str) = .ok l := by
  induction l with
  | nil => rfl
  | cons x xs ih => simp [blockerStrs, blockerStr, ih]

theorem natJ_inj (a b : Nat) : natJ a = natJ b ↔ a = b := by
  simp only [natJ, J.num.injEq, Int.ofNat_eq_natCast]; omega

theorem optNatJ_inj (a b : Option Nat) : optNatJ a = optNatJ b ↔ a = b := by
  cases a <;> cases b <;> simp [optNatJ, natJ_inj] <;> simp [natJ]

/-! ## one job: `dict()` then `GenericCommandParametersModel(**data)` -/

theorem lookup_filterMap {β γ : Type} (g : String × β → Option γ) (l : List (String × β))
    (hn : (l.map Prod.fst).Nodup) (k : String) :
    (l.filterMap fun p => (g p).map (p.1, ·)).lookup k = (l.lookup k).bind fun d => g (k, d) := by
  induction l with
  | nil => rfl
  | cons p t ih =>
    rw [List.map_cons, List.nodup_cons] at hn
    rw [List.filterMap_cons, List.lookup_cons]
    cases hb : k == p.1
    · cases h : g p <;> simp [hb, ih hn.2, List.lookup_cons]
    · obtain rfl := beq_iff_eq.1 hb
      have : t.lookup p.1 = none := List.lookup_eq_none_iff.2 fun q hq =>
        bne_iff_ne.2 fun he => hn.1 (List.mem_map.2 ⟨q, hq, he.symm⟩)
      cases h : g p <;> simp [h, ih hn.2, this]

theorem encodeField_eq (j : Job) (p : String × PyVal) :
    encodeField j p =
      ((j.fieldValue p.1).bind fun v => if popped p.1 v p.2 then none else some v).map (p.1, ·) := by
  unfold encodeField
  cases j.fieldValue p.1 with
  | none => rfl
  | some v => by_cases h : popped p.1 v p.2 = true <;> simp [h]

theorem jobFields_nodup : (jobFields.map Prod.fst).Nodup := by decide +kernel

theorem popped_iff (k : String) (v : J) (d : PyVal) :
    popped k v d = true ↔ k ∈ poppedFields ∧ pyValJ d = some v := by
  unfold popped
  cases pyValJ d <;> simp [popTest_iff, eq_comm (a := v)]

theorem lookup_encode (j : Job) (k : String) (d : PyVal) (v : J)
    (hd : jobFields.lookup k = some d) (hv : j.fieldValue k = some v) :
    (jobFields.filterMap (encodeField j)).lookup k = if popped k v d then none else some v := by
  simp only [encodeField_eq, lookup_filterMap _ _ jobFields_nodup, hd, hv, Option.bind_some]

/-- absent-because-default or present: either way the loader sees the stored value -/
theorem fieldOrDefault_encode (j : Job) (k : String) :
    fieldOrDefault (jobFields.filterMap (encodeField j)) k =
      match (jobFields.lookup k).bind fun d => (j.fieldValue k).or (pyValJ d) with
      | some v => .ok v
      | none => bad := by
  simp only [fieldOrDefault, encodeField_eq, lookup_filterMap _ _ jobFields_nodup]
  cases jobFields.lookup k with
  | none => rfl
  | some d =>
    cases j.fieldValue k with
    | none => rfl
    | some v => by_cases h : popped k v d = true <;> simp [h, ((popped_iff k v d).1 _).2]

theorem encodeJob_keys_known (j : Job) :
    (jobFields.filterMap (encodeField j)).any (fun kv => !jobFieldNames.contains kv.1) = false := by
  simp only [encodeField_eq, List.any_eq_false, List.mem_filterMap, Option.map_eq_some_iff]
  rintro _ ⟨p, hp, _, _, rfl⟩
  simpa [jobFieldNames] using ⟨_, hp⟩

theorem decodeRaw_encode (j : Job) :
    decodeRaw (jobFields.filterMap (encodeField j)) = .ok j := by
  unfold decodeRaw
  rw [encodeJob_keys_known j]
  simp only [fieldOrDefault_encode]
  simp [jobFields, Job.fieldValue, List.lookup, asBool, asStr, asObj, asBlockers, blockerStrs_str,
    bind, Except.bind, pure, Except.pure]

theorem normaliseJob_of_normal (b : Bool) (j : Job) (h : NormalJob j) : normaliseJob b j = j := by
  obtain ⟨hs, ha⟩ := h
  unfold normaliseJob
  rw [canonSet_of_pairwise _ ((sortedS_iff _).1 hs)]
  by_cases hf : outputDirForced j.useMultiNode false = true
  · have := ha hf
    cases j
    simp_all
  · simp [hf]

theorem normaliseJob_normal (b : Bool) (j : Job) : NormalJob (normaliseJob b j) := by
  refine ⟨(sortedS_iff _).2 (pairwise_canonSet _), fun hf => ?_⟩
  simp only [normaliseJob] at hf ⊢
  simp [hf, show validateAll = true from rfl]

theorem decodeFields_encode (j : Job) (h : NormalJob j) :
    decodeFields (jobFields.filterMap (encodeField j)) = .ok j := by
  simp [decodeFields, decodeRaw_encode, normaliseJob_of_normal _ j h]

theorem decodeFields_normal (kvs : Obj) (j : Job) (h : decodeFields kvs = .ok j) : NormalJob j := by
  unfold decodeFields at h
  split at h
  · cases h
  · cases h; exact normaliseJob_normal _ _

theorem decodeJob_encode (j : Job) (h : NormalJob j) : decodeJob (encodeJob j) = .ok j := by
  have hl := lookup_encode j "extension" (.str "generic_command") (.str extensionName) (by decide)
    (by simp [Job.fieldValue])
  rw [if_neg (by simp [popped_iff, poppedFields])] at hl
  simp [decodeJob, encodeJob, hl, decodeFields_encode j h]

theorem decodeJob_normal (t : J) (j : Job) (h : decodeJob t = .ok j) : NormalJob j := by
  unfold decodeJob at h
  split at h
  · split at h
    · cases h
    · split at h
      · exact decodeFields_normal _ _ h
      · cases h
  · cases h

/-! ## `add_job` -/

theorem assignId_eq (j : Job) (n : Nat) :
    assignId j n = if j.jobId.isSome then (j, n) else ({ j with jobId := some n }, n + 1) := by
  cases h : j.jobId <;> simp [assignId, idMissing_iff, h]

theorem assignId_of_some (j : Job) (n : Nat) (h : j.jobId.isSome = true) : assignId j n = (j, n) := by
  rw [assignId_eq, if_pos h]

theorem assignId_isSome (j : Job) (n : Nat) : (assignId j n).1.jobId.isSome = true := by
  rw [assignId_eq]
  split
  · assumption
  · rfl

theorem assignId_normal (j : Job) (n : Nat) (h : NormalJob j) : NormalJob (assignId j n).1 := by
  rw [assignId_eq]; split <;> exact h

theorem admitJob_eq (j : Job) (names : List String) (n : Nat) :
    admitJob j names n =
      if (assignId j n).1.commandProp = "" then .error (.invalid .emptyCommand)
      else if (assignId j n).1.name ∈ names then .error (.invalid .dupName)
      else .ok (assignId j n) := by
  simp [admitJob, commandRejected_iff, nameTaken_iff]

theorem fresh_cons {α β} (f : α → β) (x : α) (l : List α) (seen : List β) :
    (∀ y ∈ x :: l, f y ∉ seen) ∧ ((x :: l).map f).Nodup ↔
      f x ∉ seen ∧ (∀ y ∈ l, f y ∉ f x :: seen) ∧ (l.map f).Nodup := by
  simp only [List.map_cons, List.nodup_cons, List.mem_cons, List.mem_map, not_or]
  grind

/-- the invariant of the container relative to the names stored before -/
def StoredRel (names : List String) (jobs : List Job) : Prop :=
  (∀ j ∈ jobs, j.jobId.isSome = true ∧ j.commandProp ≠ "") ∧
    (∀ j ∈ jobs, j.name ∉ names) ∧ (jobs.map Job.name).Nodup

theorem storedRel_nil (jobs : List Job) : StoredRel [] jobs ↔ Stored jobs := by
  simp [StoredRel, Stored]

theorem storedRel_cons (names : List String) (j : Job) (rest : List Job) :
    StoredRel names (j :: rest) ↔
      (j.jobId.isSome = true ∧ j.commandProp ≠ "" ∧ j.name ∉ names) ∧
        StoredRel (j.name :: names) rest := by
  rw [StoredRel, StoredRel, fresh_cons Job.name, List.forall_mem_cons]
  tauto

theorem addJobs_ok_iff (js : List Job) (names : List String) (n : Nat) (out : List Job) :
    addJobs js names n = .ok out ↔ out = withIds js n ∧ StoredRel names (withIds js n) := by
  induction js generalizing names n out with
  | nil => simp [addJobs, withIds, StoredRel]
  | cons j rest ih =>
    rw [addJobs, admitJob_eq, withIds, storedRel_cons]
    split_ifs with hc hn
    · simp [hc]
    · simp [hn]
    · simp only []
      cases hr : addJobs rest ((assignId j n).1.name :: names) (assignId j n).2 with
      | error e =>
        have : ¬ StoredRel _ (withIds rest (assignId j n).2) := fun hs => by
          have := (ih _ _ _).2 ⟨rfl, hs⟩
          rw [hr] at this; cases this
        simp [this]
      | ok js' =>
        obtain ⟨rfl, hs⟩ := (ih _ _ _).1 hr
        simpa [hc, hn, hs, assignId_isSome] using eq_comm

theorem addJobs_error (js : List Job) (names : List String) (n : Nat) (e : Rej)
    (h : addJobs js names n = .error e) : e = .invalid .emptyCommand ∨ e = .invalid .dupName := by
  induction js generalizing names n with
  | nil => cases h
  | cons j rest ih =>
    rw [addJobs, admitJob_eq] at h
    split_ifs at h
    · exact .inl (by cases h; rfl)
    · exact .inr (by cases h; rfl)
    · simp only at h
      split at h
      · next hl => cases h; exact ih _ _ hl
      · cases h

theorem withIds_of_stored (js : List Job) (n : Nat) (h : ∀ j ∈ js, j.jobId.isSome = true) :
    withIds js n = js := by
  induction js generalizing n with
  | nil => rfl
  | cons j rest ih =>
    rw [List.forall_mem_cons] at h
    rw [withIds, assignId_of_some j n h.1, ih _ h.2]

theorem withIds_normal (js : List Job) (n : Nat) (h : ∀ j ∈ js, NormalJob j) :
    ∀ j ∈ withIds js n, NormalJob j := by
  induction js generalizing n with
  | nil => exact h
  | cons x rest ih =>
    rw [List.forall_mem_cons] at h
    rw [withIds, List.forall_mem_cons]
    exact ⟨assignId_normal _ _ h.1, ih _ h.2⟩

theorem loadJobs_ok (ts : List J) (names : List String) (n : Nat) (js : List Job)
    (h : loadJobs ts names n = .ok js) : StoredRel names js ∧ ∀ j ∈ js, NormalJob j := by
  induction ts generalizing names n js with
  | nil => cases h; simp [StoredRel]
  | cons t rest ih =>
    rw [loadJobs] at h
    split at h
    · cases h
    next j hj =>
    rw [admitJob_eq] at h
    split_ifs at h with hc hn
    simp only at h
    split at h
    · cases h
    next js' hl =>
    cases h
    obtain ⟨hs, hnorm⟩ := ih _ _ _ hl
    exact ⟨(storedRel_cons ..).2 ⟨⟨assignId_isSome _ _, hc, hn⟩, hs⟩,
      List.forall_mem_cons.2 ⟨assignId_normal _ _ (decodeJob_normal _ _ hj), hnorm⟩⟩

theorem loadJobs_encode (js : List Job) (names : List String) (n : Nat)
    (hs : StoredRel names js) (hn : ∀ j ∈ js, NormalJob j) :
    loadJobs (js.map encodeJob) names n = .ok js := by
  induction js generalizing names with
  | nil => rfl
  | cons j rest ih =>
    obtain ⟨⟨hi, hc, hf⟩, hrest⟩ := (storedRel_cons ..).1 hs
    rw [List.forall_mem_cons] at hn
    have ha : admitJob j names n = .ok (j, n) := by
      rw [admitJob_eq, assignId_of_some j n hi, if_neg hc, if_neg hf]
    simp only [List.map_cons, loadJobs, decodeJob_encode j hn.1, ha, ih _ hrest hn.2]

theorem decodeGroup_encode (g : Group) : decodeGroup (encodeGroup g) = .ok g := by
  obtain ⟨name, hpc, mn, np, pn, pi, ta, tb, dr⟩ := g
  cases hpc <;>
    simp [decodeGroup, encodeGroup, decodeHpc, paramKeys, Group.param, asObj, asStr, asBool, getD,
      Hpc.type, Hpc.walltime?, bind, Except.bind, pure, Except.pure, List.lookup]

theorem decodeGroups_encode (gs : List Group) : decodeGroups (gs.map encodeGroup) = .ok gs := by
  induction gs with
  | nil => rfl
  | cons g rest ih => simp [decodeGroups, decodeGroup_encode, ih]

theorem serializeKeys_nodup : (serializeKeys.map Prod.fst).Nodup := by decide +kernel

theorem lookup_header (c : Config) (k : String) :
    (headerEntries c).lookup k = (serializeKeys.lookup k).bind c.value :=
  lookup_filterMap (fun ke => c.value ke.2) _ serializeKeys_nodup k

theorem decodeHeader_encode (c : Config) (x : J) :
    decodeHeader (headerEntries c ++ [(serializeJobsKey, x)]) =
      .ok (c.groups, c.setup, c.teardown, c.nodeSetup, c.nodeTeardown) := by
  simp [decodeHeader, getD, List.lookup_append, lookup_header, serializeKeys, Config.value, List.lookup,
    decodeGroups_encode, bind, Except.bind, pure, Except.pure, serializeJobsKey]

theorem decodeJobsField_encode (c : Config) (ts : List J) :
    decodeJobsField (headerEntries c ++ [(serializeJobsKey, .arr ts)]) = loadJobs ts [] firstJobId := by
  simp [decodeJobsField, List.lookup_append, lookup_header, serializeKeys, List.lookup, serializeJobsKey]

theorem decodeConfig_encode (c : Config) (h : Normal c) : decodeConfig (encodeConfig c) = .ok c := by
  simp only [decodeConfig, encodeConfig, decodeHeader_encode, decodeJobsField_encode,
    loadJobs_encode c.jobs [] firstJobId ((storedRel_nil _).2 h.1) h.2]

theorem serializeJobs_stored (js : List Job) (h : ∀ j ∈ js, j.jobId.isSome = true) :
    serializeJobs js = .ok (js.map encodeJob) := by
  induction js with
  | nil => rfl
  | cons j rest ih =>
    rw [List.forall_mem_cons] at h
    simp [serializeJobs, serializeJob, Option.isNone_eq_false_iff.2 h.1, ih h.2]

theorem serialize_stored (c : Config) (h : Stored c.jobs) : serialize c = .ok (encodeConfig c) := by
  rw [serialize, encodeConfig, serializeJobs_stored _ fun j hj => (h.1 j hj).1]

theorem decodeConfig_normal (t : J) (c : Config) (h : decodeConfig t = .ok c) : Normal c := by
  unfold decodeConfig at h
  split at h
  · split at h
    · cases h
    · split at h
      · cases h
      · next jobs hj =>
        cases h
        unfold decodeJobsField at hj
        split at hj
        · cases hj; simp [Normal, Stored]
        · exact (loadJobs_ok _ _ _ _ hj).imp_left (storedRel_nil _).1
        · cases hj
  · cases h

theorem construct_ok_iff (c c' : Config) :
    construct c = .ok c' ↔
      c' = { c with jobs := withIds c.jobs firstJobId } ∧ Stored (withIds c.jobs firstJobId) := by
  unfold construct
  cases ha : addJobs c.jobs [] firstJobId with
  | error e =>
    have : ¬ Stored (withIds c.jobs firstJobId) := fun hs => by
      have := (addJobs_ok_iff c.jobs [] firstJobId _).2 ⟨rfl, (storedRel_nil _).2 hs⟩
      rw [ha] at this; cases this
    simp [this]
  | ok js =>
    obtain ⟨rfl, hs⟩ := (addJobs_ok_iff _ _ _ _).1 ha
    simp [(storedRel_nil _).1 hs, eq_comm]

/-! ## `run_checks` -/

theorem ite_ok_iff {p : Prop} [Decidable p] {e : Rej} :
    (if p then .ok () else .error e : R Unit) = .ok () ↔ p := by
  split <;> simp [*]

/-- `g` agrees with `f` on everything `check_submission_groups` compares -/
abbrev SameAs (g f : Group) : Prop :=
  g.hpc.type = f.hpc.type ∧ g.maxNodes = f.maxNodes ∧ g.pollInterval = f.pollInterval

theorem SameAs.trans_symm {g f x : Group} (h1 : SameAs g x) (h2 : SameAs f x) : SameAs g f :=
  ⟨h1.1.trans h2.1.symm, h1.2.1.trans h2.2.1.symm, h1.2.2.trans h2.2.2.symm⟩

theorem firstDiffering_none_iff (g f : Group) :
    firstDiffering g f = none ↔ g.maxNodes = f.maxNodes ∧ g.pollInterval = f.pollInterval := by
  simp [firstDiffering, mustBeSame, paramDiffers_iff, Group.param, optNatJ_inj, natJ_inj]

theorem firstDiffering_some (g f : Group) (p : String) (h : firstDiffering g f = some p) :
    p ∈ mustBeSame ∧ (g.maxNodes ≠ f.maxNodes ∨ g.pollInterval ≠ f.pollInterval) := by
  refine ⟨List.mem_of_find?_eq_some h, ?_⟩
  have := (firstDiffering_none_iff g f).not.1 (by simp [h])
  tauto

theorem checkGroupsLoop_ok_iff (first : Group) (gs : List Group) (seen : List String) :
    checkGroupsLoop first gs seen = .ok () ↔
      (∀ g ∈ gs, SameAs g first) ∧ (∀ g ∈ gs, g.name ∉ seen) ∧ (gs.map Group.name).Nodup := by
  induction gs generalizing seen with
  | nil => simp [checkGroupsLoop]
  | cons g rest ih =>
    rw [checkGroupsLoop, fresh_cons, List.forall_mem_cons]
    simp only [groupListedTwice_iff, hpcTypeDiffers_iff]
    split_ifs with h1 h2
    · exact iff_of_false nofun fun h => h.2.1 h1
    · exact iff_of_false nofun fun h => h2 h.1.1.1
    · cases h3 : firstDiffering g first with
      | some p =>
        have := (firstDiffering_some g first p h3).2
        exact iff_of_false nofun fun h => this.elim (· h.1.1.2.1) (· h.1.1.2.2)
      | none =>
        have hg : SameAs g first := ⟨not_not.1 h2, (firstDiffering_none_iff g first).1 h3⟩
        rw [ih, and_iff_right hg, and_iff_right h1]

/-- which error the group loop raises -/
theorem checkGroupsLoop_error (first : Group) (gs : List Group) (seen : List String) (e : Rej)
    (h : checkGroupsLoop first gs seen = .error e) :
    (e = .invalid .groupTwice ∧ ¬((∀ g ∈ gs, g.name ∉ seen) ∧ (gs.map Group.name).Nodup)) ∨
    (e = .invalid .hpcType ∧ ∃ g ∈ gs, g.hpc.type ≠ first.hpc.type) ∨
    (∃ p ∈ mustBeSame, e = .invalid (.mustBeSame p) ∧
      ∃ g ∈ gs, g.maxNodes ≠ first.maxNodes ∨ g.pollInterval ≠ first.pollInterval) := by
  induction gs generalizing seen with
  | nil => cases h
  | cons g rest ih =>
    rw [checkGroupsLoop] at h
    simp only [groupListedTwice_iff, hpcTypeDiffers_iff] at h
    split_ifs at h with h1 h2
    · cases h; exact .inl ⟨rfl, fun hh => hh.1 g (by simp) h1⟩
    · cases h; exact .inr (.inl ⟨rfl, g, by simp, h2⟩)
    · split at h
      · next p h3 =>
        cases h
        obtain ⟨hp, hd⟩ := firstDiffering_some g first p h3
        exact .inr (.inr ⟨p, hp, rfl, g, by simp, hd⟩)
      · rcases ih _ h with ⟨he, hn⟩ | ⟨he, x, hx, hd⟩ | ⟨p, hp, he, x, hx, hd⟩
        · exact .inl ⟨he, fun hh => hn ((fresh_cons ..).1 hh).2⟩
        · exact .inr (.inl ⟨he, x, List.mem_cons_of_mem _ hx, hd⟩)
        · exact .inr (.inr ⟨p, hp, he, x, List.mem_cons_of_mem _ hx, hd⟩)

theorem checkJobGroups_eq (names : List String) (jobs : List Job) :
    checkJobGroups names jobs =
      if ∀ j ∈ jobs, j.group ∈ names then .ok () else .error (.invalid .jobGroup) := by
  induction jobs with
  | nil => simp [checkJobGroups]
  | cons j rest ih =>
    by_cases h : j.group ∈ names <;> simp [checkJobGroups, jobGroupInvalid_iff, ih, h]

theorem checkEstimatedRunMinutes_eq (c : Config) (name : String) :
    checkEstimatedRunMinutes c name =
      if ∀ j ∈ c.jobs, j.group = name → j.estMinutes.isSome = true then .ok ()
      else .error (.invalid .estimateMissing) := by
  simp only [checkEstimatedRunMinutes, List.any_eq_true, estimateMissing_iff]
  split_ifs <;> grind [Option.isSome_iff_ne_none]

theorem checkEstimatesLoop_eq (c : Config) (gs : List Group) :
    checkEstimatesLoop c gs =
      if ∀ g ∈ gs, g.perNodeBatchSize = 0 → ∀ j ∈ c.jobs, j.group = g.name → j.estMinutes.isSome = true
      then .ok () else .error (.invalid .estimateMissing) := by
  induction gs with
  | nil => simp [checkEstimatesLoop]
  | cons g rest ih =>
    rw [checkEstimatesLoop, checkEstimatedRunMinutes_eq, ih]
    simp only [estimateGuard_iff, List.forall_mem_cons]
    by_cases h0 : g.perNodeBatchSize = 0
    · by_cases hA : ∀ j ∈ c.jobs, j.group = g.name → j.estMinutes.isSome = true
      · simp only [h0, if_pos hA, and_iff_right hA, if_true, forall_const]
      · simp [h0, hA]
    · simp [h0]

theorem checkDependencies_eq (c : Config) :
    checkDependencies c =
      if ∀ j ∈ c.jobs, ∀ b ∈ j.blockedBy, b ∈ jobNames c then .ok ()
      else .error (.invalid .dependencies) := by
  simp only [checkDependencies, dependenciesBad_iff]
  split_ifs <;> grind [allBlockers]

theorem wallTimes_eq (gs : List Group) :
    wallTimes gs =
      if ∀ g ∈ gs, (wallOf g).isSome = true then .ok (gs.map fun g => (g.name, (wallOf g).getD 0))
      else .error (.err .assertion) := by
  induction gs with
  | nil => rfl
  | cons g rest ih =>
    simp only [wallTimes, ih, List.forall_mem_cons, List.map_cons]
    cases hw : wallOf g with
    | none => simp
    | some w => split_ifs <;> simp_all

theorem lookup_map_name (gs : List Group) (f : Group → Nat) (hn : (gs.map Group.name).Nodup)
    (g : Group) (hg : g ∈ gs) : (gs.map (fun g => (g.name, f g))).lookup g.name = some (f g) := by
  induction gs with
  | nil => cases hg
  | cons x rest ih =>
    rw [List.map_cons, List.nodup_cons] at hn
    rw [List.map_cons, List.lookup_cons]
    rcases List.mem_cons.1 hg with rfl | hg
    · simp
    · rw [beq_false_of_ne fun he => hn.1 (List.mem_map.2 ⟨g, hg, he⟩)]
      exact ih hn.2 hg

theorem fits_iff (j : Job) (g : Group) (w : Nat) (hw : wallOf g = some w) :
    Fits j g ↔ ∀ m ∈ j.estMinutes, 60 * m ≤ w := by
  unfold Fits
  cases j.estMinutes <;> simp [hw]

/-- the job loop of `check_job_runtimes` when the dictionary of wall times has every job's group:
    `ok j` is what the comparison with the wall time found there says -/
theorem checkRuntimesLoop_eq (walls : List (String × Nat)) (jobs : List Job) (ok : Job → Prop)
    [DecidablePred ok]
    (h : ∀ j ∈ jobs, ∃ w, walls.lookup j.group = some w ∧ (ok j ↔ ∀ m ∈ j.estMinutes, 60 * m ≤ w)) :
    checkRuntimesLoop walls jobs =
      if ∀ j ∈ jobs, ok j then .ok () else .error (.invalid .runtime) := by
  induction jobs with
  | nil => simp [checkRuntimesLoop]
  | cons j rest ih =>
    rw [List.forall_mem_cons] at h
    obtain ⟨w, hw, hj⟩ := h.1
    simp only [checkRuntimesLoop, hw, ih h.2, List.forall_mem_cons, hj]
    cases he : j.estMinutes with
    | none => simp [hasEstimate_iff]
    | some m => by_cases hm : w < 60 * m <;> simp [hasEstimate_iff, runtimeTooLong_iff, hm, Nat.not_lt.1]

theorem checkRuntimes_eq (c : Config) (hn : (groupNames c).Nodup)
    (hg : ∀ j ∈ c.jobs, j.group ∈ groupNames c) :
    checkRuntimes c =
      if ∀ g ∈ c.groups, (wallOf g).isSome = true then
        if ∀ j ∈ c.jobs, ∀ g ∈ c.groups, g.name = j.group → Fits j g then .ok ()
        else .error (.invalid .runtime)
      else .error (.err .assertion) := by
  rw [checkRuntimes, wallTimes_eq]
  by_cases hw : ∀ g ∈ c.groups, (wallOf g).isSome = true
  swap
  · rw [if_neg hw, if_neg hw]
  rw [if_pos hw, if_pos hw]
  refine checkRuntimesLoop_eq _ _ _ fun j hj => ?_
  -- the dictionary holds, under a job's group name, the wall time of every group of that name
  have hl : ∀ g ∈ c.groups, g.name = j.group →
      (c.groups.map fun g => (g.name, (wallOf g).getD 0)).lookup j.group = wallOf g :=
    fun g hgm he => by
      obtain ⟨w, hgw⟩ := Option.isSome_iff_exists.1 (hw g hgm)
      rw [← he, lookup_map_name _ _ hn g hgm, hgw]; rfl
  obtain ⟨g, hgm, he⟩ := List.mem_map.1 (hg j hj)
  obtain ⟨w, hgw⟩ := Option.isSome_iff_exists.1 (hw g hgm)
  rw [← hl g hgm he] at hgw
  exact ⟨w, hgw, fun h => (fits_iff j g w (hl g hgm he ▸ hgw)).1 (h g hgm he),
    fun h g' hg' he' => (fits_iff j g' w (hl g' hg' he' ▸ hgw)).2 h⟩

theorem checkSubmissionGroups_ok_iff (c : Config) :
    checkSubmissionGroups c = .ok () ↔
      c.groups ≠ [] ∧ (groupNames c).Nodup ∧ (∀ g ∈ c.groups, ∀ f ∈ c.groups, SameAs g f) ∧
      ∀ j ∈ c.jobs, j.group ∈ groupNames c := by
  unfold checkSubmissionGroups groupNames
  cases c.groups with
  | nil => simp
  | cons first rest =>
    have hs : (∀ g ∈ first :: rest, SameAs g first) ↔
        ∀ g ∈ first :: rest, ∀ f ∈ first :: rest, SameAs g f :=
      ⟨fun h g hg f hf => (h g hg).trans_symm (h f hf), fun h g hg => h g hg first (by simp)⟩
    rw [← hs]
    dsimp only
    cases hl : checkGroupsLoop first (first :: rest) [] with
    | error e =>
      have := (checkGroupsLoop_ok_iff first (first :: rest) []).not.1 (by rw [hl]; nofun)
      simp only [reduceCtorEq, false_iff]
      exact fun h => this ⟨h.2.2.1, by simp, h.2.1⟩
    | ok u =>
      obtain ⟨hs', -, hn⟩ := (checkGroupsLoop_ok_iff first (first :: rest) []).1 hl
      rw [checkJobGroups_eq, ite_ok_iff]
      exact ⟨fun h => ⟨nofun, hn, hs', h⟩, fun h => h.2.2.2⟩

theorem checkSubmissionGroups_error (c : Config) (e : Rej) (h : checkSubmissionGroups c = .error e) :
    (e = .stopIteration ∧ c.groups = []) ∨
    (e = .invalid .groupTwice ∧ ¬(groupNames c).Nodup) ∨
    (e = .invalid .hpcType ∧ ¬∀ g ∈ c.groups, ∀ f ∈ c.groups, g.hpc.type = f.hpc.type) ∨
    (∃ p ∈ mustBeSame, e = .invalid (.mustBeSame p) ∧
      ¬∀ g ∈ c.groups, ∀ f ∈ c.groups, g.maxNodes = f.maxNodes ∧ g.pollInterval = f.pollInterval) ∨
    (e = .invalid .jobGroup ∧ (groupNames c).Nodup ∧ (∀ g ∈ c.groups, ∀ f ∈ c.groups, SameAs g f) ∧
      ¬∀ j ∈ c.jobs, j.group ∈ groupNames c) := by
  unfold checkSubmissionGroups groupNames at *
  cases hgs : c.groups with
  | nil => rw [hgs] at h; cases h; simp
  | cons first rest =>
    rw [hgs] at h
    dsimp only at h
    have hf : first ∈ first :: rest := by simp
    split at h
    · next e' hl =>
      cases h
      rcases checkGroupsLoop_error _ _ _ _ hl with ⟨he, hn⟩ | ⟨he, g, hg, hd⟩ | ⟨p, hp, he, g, hg, hd⟩
      · exact .inr (.inl ⟨he, fun hh => hn ⟨by simp, hh⟩⟩)
      · exact .inr (.inr (.inl ⟨he, fun hT => hd (hT g hg first hf)⟩))
      · exact .inr (.inr (.inr (.inl ⟨p, hp, he, fun hM => by have := hM g hg first hf; tauto⟩)))
    · next hl =>
      obtain ⟨hs, -, hn⟩ := (checkGroupsLoop_ok_iff ..).1 hl
      rw [checkJobGroups_eq] at h
      split_ifs at h with hj
      cases h
      exact .inr (.inr (.inr (.inr ⟨rfl, hn, fun g hg f hf => (hs g hg).trans_symm (hs f hf), hj⟩)))

theorem runChecks_eq (c : Config) :
    runChecks c =
      (match checkSubmissionGroups c with
       | .error e => .error e
       | .ok () =>
         match checkEstimatesLoop c c.groups with
         | .error e => .error e
         | .ok () =>
           match checkDependencies c with
           | .error e => .error e
           | .ok () => checkRuntimes c) := by
  simp only [runChecks, runChecksCalls, runChecksList, runCheck]
  cases checkSubmissionGroups c <;> simp only []
  cases checkEstimatesLoop c c.groups <;> simp only []
  cases checkDependencies c <;> simp only []
  cases checkRuntimes c <;> rfl

theorem runChecks_ok_iff (c : Config) : runChecks c = .ok () ↔ ChecksValid c := by
  have h : runChecks c = .ok () ↔ checkSubmissionGroups c = .ok () ∧
      checkEstimatesLoop c c.groups = .ok () ∧ checkDependencies c = .ok () ∧ checkRuntimes c = .ok () := by
    rw [runChecks_eq]
    cases checkSubmissionGroups c <;> cases checkEstimatesLoop c c.groups <;>
      cases checkDependencies c <;> simp
  rw [h, checkSubmissionGroups_ok_iff, checkEstimatesLoop_eq, checkDependencies_eq, ite_ok_iff, ite_ok_iff]
  constructor
  · rintro ⟨⟨a, b, d, e⟩, f, g, h⟩
    rw [checkRuntimes_eq c b e] at h
    split_ifs at h with p q
    exact ⟨a, b, d, e, f, g, p, q⟩
  · rintro ⟨a, b, d, e, f, g, p, q⟩
    exact ⟨⟨a, b, d, e⟩, f, g, by rw [checkRuntimes_eq c b e, if_pos p, if_pos q]⟩

end Jade.Config
