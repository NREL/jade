import JadeModel.Proofs.Realize
import JadeModel.Model.System
import JadeModel.Model.SystemPlain

/-!
# The system model: process table, the invariants `RoleInv` / `BatchInv`, and its accepted events as a relation

First the basic facts about the process table and the definitions of the two innermost invariants.  Then
`Step s op s'`, the branches of `Jade.Sys.step` that return `some`: one constructor per branch, with the
process-table entry the event reads, its guard and the successor state.  `step_sound` / `step_complete` are the
only places where `step` is unfolded; every preservation proof is an `induction` on `Step`, and the `*_run`
liftings are instances of `run_inv` (`run_inv_of` for runs of a class of ops; `runP_inv`,
`Proofs/SystemLiveDefs.lean`, for the fault-free layer).
-/

namespace Jade.Sys

/-- the process is between a successful promotion and its demotion -/
def holds : SPc → Bool
  | .fresh => false
  | .gone => false
  | _ => true

/-- the process may still act on the marker it created -/
def owns (a : Bool) (x : SubP) : Bool :=
  a && x.hasMarker && (x.pc == .marked || x.pc == .persisted)

/-- the marker of a crashed round: nobody will remove it, nobody can create one -/
def Orphan (s : Sys) : Prop :=
  s.marker = true ∧ ∀ q a y, s.procs q = .sub a y → owns a y = false

/-! ### basic facts about the process table -/

@[simp] theorem procs_setProc (s : Sys) (p q : Pid) (x : Proc) :
    (setProc s p x).procs q = if q = p then x else s.procs q := rfl

@[simp] theorem procs_setSub (s : Sys) (p q : Pid) (x : SubP) :
    (setSub s p x).procs q = if q = p then .sub true x else s.procs q := rfl

@[simp] theorem procs_setNode (s : Sys) (p q : Pid) (x : NodeP) :
    (setNode s p x).procs q = if q = p then .node true x else s.procs q := rfl

theorem getSub_iff (s : Sys) (p : Pid) (x : SubP) : getSub s p = some x ↔ s.procs p = .sub true x := by
  unfold getSub; split <;> simp_all

theorem getNode_iff (s : Sys) (p : Pid) (x : NodeP) : getNode s p = some x ↔ s.procs p = .node true x := by
  unfold getNode; split <;> simp_all

theorem getSub_eq {s : Sys} {p : Pid} {x : SubP} (h : getSub s p = some x) : s.procs p = .sub true x :=
  (getSub_iff s p x).1 h

@[simp] theorem setSub_fields (s : Sys) (p : Pid) (x : SubP) :
    (setSub s p x).disk = s.disk ∧ (setSub s p x).submitter = s.submitter ∧
    (setSub s p x).marker = s.marker ∧ (setSub s p x).batches = s.batches ∧
    (setSub s p x).processed = s.processed ∧ (setSub s p x).nodeFile = s.nodeFile ∧
    (setSub s p x).slurm = s.slurm ∧ (setSub s p x).starts = s.starts ∧ (setSub s p x).sc = s.sc ∧
    (setSub s p x).lateSbatch = s.lateSbatch ∧ (setSub s p x).completions = s.completions ∧
    (setSub s p x).summaries = s.summaries := by
  simp [setSub, setProc]

@[simp] theorem setNode_fields (s : Sys) (p : Pid) (x : NodeP) :
    (setNode s p x).disk = s.disk ∧ (setNode s p x).submitter = s.submitter ∧
    (setNode s p x).marker = s.marker ∧ (setNode s p x).batches = s.batches ∧
    (setNode s p x).processed = s.processed ∧ (setNode s p x).nodeFile = s.nodeFile ∧
    (setNode s p x).slurm = s.slurm ∧ (setNode s p x).starts = s.starts ∧ (setNode s p x).sc = s.sc ∧
    (setNode s p x).lateSbatch = s.lateSbatch ∧ (setNode s p x).completions = s.completions ∧
    (setNode s p x).summaries = s.summaries := by
  simp [setNode, setProc]

@[simp] theorem setProc_fields (s : Sys) (p : Pid) (x : Proc) :
    (setProc s p x).disk = s.disk ∧ (setProc s p x).submitter = s.submitter ∧
    (setProc s p x).marker = s.marker ∧ (setProc s p x).batches = s.batches ∧
    (setProc s p x).processed = s.processed ∧ (setProc s p x).nodeFile = s.nodeFile ∧
    (setProc s p x).slurm = s.slurm ∧ (setProc s p x).starts = s.starts ∧ (setProc s p x).sc = s.sc ∧
    (setProc s p x).lateSbatch = s.lateSbatch ∧ (setProc s p x).completions = s.completions ∧
    (setProc s p x).summaries = s.summaries := by
  simp [setProc]

/-! ### the role invariant (C10 at system level; the backbone of C01/C11) -/

structure RoleInv (s : Sys) : Prop where
  /-- whoever is past promotion and before demotion — alive or dead — is the submitter on disk -/
  holder : ∀ q a y, s.procs q = .sub a y → holds y.pc = true → s.submitter = some q
  /-- a marker flag in a process means the marker file exists and the process holds the role -/
  markerOf : ∀ q a y, s.procs q = .sub a y → y.hasMarker = true → s.marker = true ∧ holds y.pc = true
  /-- in the submit phase the process owns the marker -/
  marked : ∀ q a y, s.procs q = .sub a y → (y.pc = .marked ∨ y.pc = .persisted) → y.hasMarker = true
  /-- batches handed out but not yet persisted exist only while the marker is held -/
  pendMarker : ∀ q a y, s.procs q = .sub a y → y.pend ≠ [] → y.hasMarker = true
  /-- after `update_job_status` nothing is pending -/
  persistedPend : ∀ q a y, s.procs q = .sub a y → y.pc = .persisted → y.pend = []

theorem RoleInv.not_orphan {s : Sys} (hr : RoleInv s) {p : Pid} {x : SubP} (hp : s.procs p = .sub true x)
    (hpc : x.pc = .marked ∨ x.pc = .persisted) : ¬ Orphan s := fun ho => by
  have := ho.2 p true x hp
  have hm := hr.marked p true x hp hpc
  rcases hpc with h | h <;> simp [owns, hm, h] at this

theorem roleInv_init (sc : Scn) : RoleInv (init sc) := by
  constructor <;> intro q a y h <;> simp [init] at h

/-- unfold one accepted step into its cases -/
macro "step_cases" h:ident : tactic => `(tactic|
  (simp only [step] at $h:ident
   repeat' split at $h:ident
   all_goals first | cases $h:ident | skip
   all_goals try simp only [getSub_iff, getNode_iff] at *))

/-- rewrite the process table and the untouched fields of a successor state, in `hq` and in the goal -/
macro "frame_simp" "at" hq:ident : tactic => `(tactic|
  try simp only [procs_setSub, procs_setNode, procs_setProc, setSub_fields, setNode_fields, setProc_fields] at $hq:ident ⊢)

macro "frame_goal" : tactic => `(tactic|
  try simp only [procs_setSub, procs_setNode, procs_setProc, setSub_fields, setNode_fields, setProc_fields])

theorem ite_eq_cases {c : Prop} [Decidable c] {α : Type} {a b r : α} (h : (if c then a else b) = r) :
    c ∧ a = r ∨ ¬ c ∧ b = r := by
  split at h
  · exact .inl ⟨‹_›, h⟩
  · exact .inr ⟨‹_›, h⟩

/-- `scancel` rewrites the node entries of the cancelled allocation and no submitter entry -/
theorem sub_of_scancel {s : Sys} {q : Pid} {h : Hid} {a : Bool} {y : SubP}
    (hq : (match s.procs q with
      | Proc.node true n => if n.hid = h then Proc.node false n else s.procs q
      | other => other) = Proc.sub a y) : s.procs q = .sub a y := by
  split at hq
  · split at hq <;> simp_all
  · exact hq

/-- `hq : s'.procs q = e` in the successor state `s'` of an event of process `p`: either `q = p` and `e` is the new entry
    of `p` (then `e` is replaced by it and `hq` is gone), or `q ≠ p` and `hq : s.procs q = e`.
    With `from c`, where `c : ∀ q a y, s.procs q = e → C s y` is the clause being proved of `s`, the clause is brought in the form the branch needs: as the goal where the event left alone
    what `C` reads (of the entry of `q`, of the shared state), else at the one entry the branch names. -/
syntax "proc_cases" "at" ident ("from" term)? : tactic
macro_rules
  | `(tactic| proc_cases at $hq:ident) => `(tactic|
    (try dsimp only [procs_setSub, procs_setNode, procs_setProc] at $hq:ident
     try (replace $hq := ite_eq_cases $hq; rcases $hq:ident with ⟨_, ⟨⟩⟩ | ⟨_, $hq:ident⟩)))
  | `(tactic| proc_cases at $hq:ident from $c) => `(tactic|
    proc_cases at $hq:ident <;> first
      | exact $c _ _ _ $hq
      | exact $c _ _ _ (sub_of_scancel $hq)
      | (have := $c _ _ _ ‹_›; first | exact this | skip)
      | skip)

/-- the in-memory state of whoever the `submitter` field names (alive or dead) -/
def holderSub (s : Sys) : Option SubP :=
  match s.submitter with
  | some q => (match s.procs q with
    | .sub _ y => some y
    | _ => none)
  | none => none

def holderPend (s : Sys) : List JobId :=
  match holderSub s with
  | some y => y.pend
  | none => []

def holderBidx (s : Sys) : Nat :=
  match holderSub s with
  | some y => y.bidx
  | none => 0

theorem holderSub_eq_some {s : Sys} {y : SubP} :
    holderSub s = some y ↔ ∃ q a, s.submitter = some q ∧ s.procs q = .sub a y := by
  unfold holderSub
  grind

theorem holderSub_eq {s : Sys} (hr : RoleInv s) {p : Pid} {a : Bool} {x : SubP} (hp : s.procs p = .sub a x)
    (hh : holds x.pc = true) : holderSub s = some x := by
  simp [holderSub, hr.holder p a x hp hh, hp]

theorem mem_holderPend {s : Sys} {j : JobId} :
    j ∈ holderPend s ↔ ∃ q a y, s.submitter = some q ∧ s.procs q = .sub a y ∧ j ∈ y.pend := by
  unfold holderPend holderSub
  grind

theorem lt_holderBidx {s : Sys} {n : Nat} :
    n < holderBidx s ↔ ∃ q a y, s.submitter = some q ∧ s.procs q = .sub a y ∧ n < y.bidx := by
  unfold holderBidx holderSub
  grind

/-- every batch handed out is accounted for: on disk, or pending in the role holder's memory, or
    behind the marker of a crashed round (after which nobody submits again) -/
structure BatchInv (s : Sys) : Prop where
  role : RoleInv s
  /-- the holder's copy never regresses a job to NOT_SUBMITTED -/
  locSt : ∀ q a y, s.procs q = .sub a y → holds y.pc = true → ∀ j, s.disk.st j ≠ .ns → y.loc.st j ≠ .ns
  locBidx : ∀ q a y, s.procs q = .sub a y → holds y.pc = true → s.disk.bidx ≤ y.bidx
  locBidxEq : ∀ q a y, s.procs q = .sub a y → holds y.pc = true → y.pend = [] → y.bidx = s.disk.bidx
  jobs : ∀ b ∈ s.batches, ∀ j ∈ b.jobs, s.disk.st j ≠ .ns ∨ j ∈ holderPend s ∨ Orphan s
  ids : ∀ b ∈ s.batches, b.bid < s.disk.bidx ∨ b.bid < holderBidx s ∨ Orphan s
  jobsNodup : (s.batches.flatMap (·.jobs)).Nodup
  idsNodup : (s.batches.map (·.bid)).Nodup

theorem batchInv_init (sc : Scn) : BatchInv (init sc) := by
  refine ⟨roleInv_init sc, ?_, ?_, ?_, ?_, ?_, ?_, ?_⟩ <;> simp [init]

theorem freshHid_some_iff (s : Sys) (x : SubP) (h : Hid) :
    freshHid s x (some h) = true ↔ (s.slurm h = none ∧ h ∉ x.out) := by
  simp [freshHid]

/-- what the role holder is about to hand out is new: no job of it is in an earlier batch and its
    batch index was never used (the heart of C01) -/
theorem sbatch_fresh {s : Sys} {p : Pid} {x : SubP} {jobs : List JobId} (hi : BatchInv s)
    (hp : s.procs p = .sub true x) (hpc : x.pc = .marked)
    (hg : ∀ j ∈ jobs, x.loc.st j = .ns ∧ j ∉ x.pend) :
    (∀ j ∈ jobs, j ∉ s.batches.flatMap (·.jobs)) ∧ x.bidx ∉ s.batches.map (·.bid) := by
  have hno := hi.role.not_orphan hp (Or.inl hpc)
  have hh : holds x.pc = true := by rw [hpc]; rfl
  have hhs : holderSub s = some x := holderSub_eq_some.2 ⟨p, true, hi.role.holder p true x hp hh, hp⟩
  have := hi.jobs; have := hi.ids; have := hi.locSt p true x hp hh; have := hi.locBidx p true x hp hh
  simp only [holderPend, holderBidx, hhs] at *
  grind

/-! ### the accepted events as a relation -/

inductive Step : Sys → Op → Sys → Prop
  | spawnSub {s p c} (hp : s.procs p = .none) :
      Step s (.spawnSub p c) (setSub s p { SubP.load s.disk c with pc := .fresh })
  | promoteRefused {s p x q} (hp : s.procs p = .sub true x) (hpc : x.pc = .fresh) (hs : s.submitter = some q) :
      Step s (.promote p) (setSub s p { x with pc := if x.isCancel then .fresh else .gone })
  | promoteDone {s p x} (hp : s.procs p = .sub true x) (hpc : x.pc = .fresh) (hs : s.submitter = none)
      (hc : s.disk.complete = true) :
      Step s (.promote p) (setSub { s with submitter := some p } p
        { SubP.load s.disk x.isCancel with pc := .unmarked, decided := false })
  | promote {s p x} (hp : s.procs p = .sub true x) (hpc : x.pc = .fresh) (hs : s.submitter = none)
      (hc : ¬ s.disk.complete = true) :
      Step s (.promote p) (setSub { s with submitter := some p } p (SubP.load s.disk x.isCancel))
  | poll {s p x gone} (hp : s.procs p = .sub true x)
      (hg : x.pc = .loaded ∧ !x.isCancel ∧ gone.all (fun h => !activeB s h) ∧
        x.out.all (fun h => activeB s h || gone.contains h)) :
      Step s (.poll p gone) (setSub s p { x with pc := .collecting, out := x.out.filter (fun h => !gone.contains h) })
  | collectFile {s p x b} (hp : s.procs p = .sub true x)
      (hg : (x.pc = .collecting ∨ (x.pc = .loaded ∧ x.out = [])) ∧ !x.isCancel) :
      Step s (.collectFile p b)
        (setSub { s with processed := s.processed ++ s.nodeFile b,
                         nodeFile := fun c => if c = b then [] else s.nodeFile c } p
          { x with pc := .collecting, pass := x.pass ++ s.nodeFile b })
  | collectCopy {s p x b} (hp : s.procs p = .sub true x)
      (hg : (x.pc = .collecting ∨ (x.pc = .loaded ∧ x.out = [])) ∧ !x.isCancel) :
      Step s (.collectCopy p b)
        (setSub { s with processed := s.processed ++ s.nodeFile b } p { x with pc := .failing })
  | passEnd {s p x ks} (hp : s.procs p = .sub true x)
      (hg : (x.pc = .collecting ∨ (x.pc = .loaded ∧ x.out = [])) ∧ !x.isCancel ∧ x.toCancel = [] ∧
        ks.Nodup ∧ cancelSetOk s.sc x ks) :
      Step s (.passEnd p ks) (setSub s p { x with
        pc := .collecting,
        newly := x.newly ++ (x.pass.map (·.job)).filter (fun j => !x.newly.contains j),
        loc := { x.loc with
          st := fun j => if j ∈ ks then .done else x.loc.st j,
          blk := fun j => if j ∈ ks then [] else
            (match x.loc.st j with
             | .ns => (x.loc.blk j).filter (fun b => !(x.pass.map (·.job)).contains b && !x.newly.contains b)
             | _ => x.loc.blk j) },
        cancels := x.cancels ++ ks,
        toCancel := ks,
        pass := [],
        cancelRows := [] })
  | cancelRow {s p x j rest} (hp : s.procs p = .sub true x) (ht : x.toCancel = j :: rest)
      (hg : x.pc = .collecting) :
      Step s (.cancelRow p j)
        (setSub { s with processed := s.processed ++ [{ job := j, rc := 1, canceled := true }] } p
          { x with toCancel := rest, pass := x.pass ++ [{ job := j, rc := 1, canceled := true }] })
  | collectDone {s p x} (hp : s.procs p = .sub true x)
      (hg : x.pc = .collecting ∧ x.toCancel = [] ∧ x.pass = []) :
      Step s (.collectDone p) (setSub s p { x with pc := .ready })
  | mark {s p x} (hp : s.procs p = .sub true x) (hg : x.pc = .ready ∧ !s.marker) :
      Step s (.mark p) (setSub { s with marker := true } p { x with pc := .marked, hasMarker := true })
  | sbatch {s p x jobs h} (hp : s.procs p = .sub true x)
      (hg : x.pc = .marked ∧ !x.loc.canceled ∧ jobs ≠ [] ∧ jobs.Nodup ∧ x.out.length < s.sc.maxNodes ∧
        (∀ j ∈ jobs, x.loc.st j = .ns ∧ j ∉ x.pend ∧ (∀ b ∈ x.loc.blk j, b ∈ jobs) ∧ j < s.sc.n))
      (hf : s.slurm h = none ∧ h ∉ x.out) :
      Step s (.sbatch p jobs (some h))
        (setSub { s with
            batches := s.batches ++ [{ bid := x.bidx, owner := p, jobs := jobs, handed := x.loc.blk, hid := some h }],
            slurm := fun k => if k = h then some .pending else s.slurm k,
            lateSbatch := s.lateSbatch || s.disk.canceled || s.disk.complete } p
          { x with pend := x.pend ++ jobs, bidx := x.bidx + 1, out := x.out ++ [h] })
  | sbatchFailed {s p x jobs} (hp : s.procs p = .sub true x)
      (hg : x.pc = .marked ∧ !x.loc.canceled ∧ jobs ≠ [] ∧ jobs.Nodup ∧ x.out.length < s.sc.maxNodes ∧
        (∀ j ∈ jobs, x.loc.st j = .ns ∧ j ∉ x.pend ∧ (∀ b ∈ x.loc.blk j, b ∈ jobs) ∧ j < s.sc.n)) :
      Step s (.sbatch p jobs none)
        (setSub { s with
            batches := s.batches ++ [{ bid := x.bidx, owner := p, jobs := jobs, handed := x.loc.blk, hid := none }],
            lateSbatch := s.lateSbatch || s.disk.canceled || s.disk.complete } p
          { x with pend := x.pend ++ jobs, bidx := x.bidx + 1 })
  | persist {s p x} (hp : s.procs p = .sub true x) (hg : x.pc = .marked) :
      Step s (.persist p) (setSub { s with disk := persistStatus x } p
        { x with pc := .persisted, loc := persistStatus x, pend := [], newly := [], cancels := [] })
  | persistCfg {s p x} (hp : s.procs p = .sub true x) (hg : x.pc = .marked) :
      Step s (.persistCfg p)
        (setSub { s with disk := { s.disk with subCnt := (persistStatus x).subCnt,
                                               doneCnt := (persistStatus x).doneCnt } } p
          { x with loc := { x.loc with subCnt := (persistStatus x).subCnt, doneCnt := (persistStatus x).doneCnt },
                   cancels := [], pc := .failing })
  | persistJobs {s p x} (hp : s.procs p = .sub true x) (hg : x.pc = .failing) :
      Step s (.persistJobs p)
        (setSub { s with disk := { persistStatus x with subCnt := s.disk.subCnt, doneCnt := s.disk.doneCnt } } p
          { x with loc := { persistStatus x with subCnt := s.disk.subCnt, doneCnt := s.disk.doneCnt },
                   pend := [], newly := [] })
  | skipPersist {s p x} (hp : s.procs p = .sub true x)
      (hg : x.pc = .marked ∧ x.pend = [] ∧ x.newly = [] ∧ x.out = x.loc.ids) :
      Step s (.skipPersist p) (setSub s p { x with pc := .persisted })
  | unmark {s p x} (hp : s.procs p = .sub true x) (hg : x.pc = .persisted ∧ x.hasMarker) :
      Step s (.unmark p) (setSub { s with marker := false } p
        { x with pc := .unmarked, hasMarker := false, decided := isCompleteDecision s.sc.n x.loc })
  | summary {s p x} (hp : s.procs p = .sub true x) (hg : x.pc = .unmarked ∧ x.decided) :
      Step s (.summary p) (setSub { s with summaries := s.summaries + 1 } p { x with pc := .summarized })
  | flag {s p x} (hp : s.procs p = .sub true x) (hg : x.pc = .summarized ∧ !s.disk.complete) :
      Step s (.flag p)
        (setSub { s with disk := { s.disk with complete := true }, completions := s.completions + 1 } p
          { x with pc := .flagged, loc := { x.loc with complete := true } })
  | demote {s p x} (hp : s.procs p = .sub true x)
      (hg : (x.pc = .unmarked ∧ !x.decided) ∨ x.pc = .flagged ∨ x.pc = .failing) (hs : s.submitter = some p) :
      Step s (.demote p) (setSub { s with submitter := none } p { x with pc := .gone, hasMarker := false, pend := [] })
  | exit {s p x} (hp : s.procs p = .sub true x) (hg : x.pc = .gone) :
      Step s (.exit p) (setProc s p (.sub false x))
  | failIdle {s p x} (hp : s.procs p = .sub true x) (hg : x.pc = .fresh ∨ x.pc = .gone) :
      Step s (.fail p) (setSub s p { x with pc := .gone })
  | fail {s p x} (hp : s.procs p = .sub true x) (hg : ¬ (x.pc = .fresh ∨ x.pc = .gone)) :
      Step s (.fail p) (setSub s p { x with pc := .failing })
  | scancel {s p x h} (hp : s.procs p = .sub true x) (hg : x.pc = .loaded ∧ x.isCancel ∧ h ∈ x.out) :
      Step s (.scancel p h)
        { s with
          slurm := fun k => if k = h then (match s.slurm h with | some _ => some .ended | none => none) else s.slurm k,
          procs := fun q =>
            if q = p then .sub true { x with out := x.out.filter (· != h) }
            else match s.procs q with
              | .node true n => if n.hid = h then .node false n else s.procs q
              | other => other }
  | markCanceled {s p x} (hp : s.procs p = .sub true x) (hg : x.pc = .loaded ∧ x.isCancel ∧ x.out = []) :
      Step s (.markCanceled p) (setSub { s with disk := { s.disk with canceled := true } } p
        { x with pc := .unmarked, decided := false, loc := { x.loc with canceled := true } })
  | startBatch {s h p workers b} (hp : s.procs p = .none) (hs : s.slurm h = some .pending)
      (hb : s.batches.find? (fun b => b.hid == some h) = some b) :
      Step s (.startBatch h p workers)
        (setNode { s with slurm := fun k => if k = h then some .running else s.slurm k } p
          { bid := b.bid, hid := h, queued := b.jobs, nblk := b.handed, running := [], seen := [],
            workers := workers })
  | nodeStart {s p n j} (hp : s.procs p = .node true n)
      (hg : j ∈ n.queued ∧ n.nblk j = [] ∧ n.running.length < n.workers) :
      Step s (.nodeStart p j) (setNode { s with starts := s.starts ++ [(j, n.hid)] } p
        { n with queued := n.queued.filter (· != j), running := n.running ++ [j] })
  | nodeRow {s p n j} (hp : s.procs p = .node true n) (hg : j ∈ n.running) :
      Step s (.nodeRow p j)
        (setNode { s with nodeFile := fun c =>
            if c = n.bid then s.nodeFile c ++ [{ job := j, rc := s.sc.rc j, canceled := false }] else s.nodeFile c } p
          { n with running := n.running.filter (· != j),
                   seen := n.seen ++ [{ job := j, rc := s.sc.rc j, canceled := false }],
                   nblk := fun k => if (Row.bad { job := j, rc := s.sc.rc j, canceled := false }) && s.sc.flag k
                     then n.nblk k else (n.nblk k).filter (· != j) })
  | nodeCancel {s p n j} (hp : s.procs p = .node true n)
      (hg : j ∈ n.queued ∧ s.sc.flag j ∧ (n.nblk j).any (fun b => badIn n.seen b)) :
      Step s (.nodeCancel p j)
        (setNode { s with nodeFile := fun c =>
            if c = n.bid then s.nodeFile c ++ [{ job := j, rc := 1, canceled := true }] else s.nodeFile c } p
          { n with queued := n.queued.filter (· != j), seen := n.seen ++ [{ job := j, rc := 1, canceled := true }],
                   nblk := fun k => if s.sc.flag k then n.nblk k else (n.nblk k).filter (· != j) })
  | nodeEnd {s p n} (hp : s.procs p = .node true n) (hg : n.queued = [] ∧ n.running = []) :
      Step s (.nodeEnd p)
        { s with procs := fun q => if q = p then .node false n else s.procs q,
                 slurm := fun k => if k = n.hid then some .ended else s.slurm k }
  | killSub {s p x} (hp : s.procs p = .sub true x) : Step s (.kill p) (setProc s p (.sub false x))
  | killNode {s p n} (hp : s.procs p = .node true n) :
      Step s (.kill p)
        { s with procs := fun q => if q = p then .node false n else s.procs q,
                 slurm := fun k => if k = n.hid then some .ended else s.slurm k }
  | batchLost {s h} (hs : s.slurm h = some .pending) :
      Step s (.batchLost h) { s with slurm := fun k => if k = h then some .ended else s.slurm k }

theorem step_sound {s s' : Sys} {op : Op} (h : step s op = some s') : Step s op s' := by
  cases op
  case promote p =>
    step_cases h
    · rename_i hpc _ _ hs hc hp; have := Step.promoteRefused hp hpc hs; rwa [if_pos hc] at this
    · rename_i hpc _ _ hs hc hp; have := Step.promoteRefused hp hpc hs; rwa [if_neg hc] at this
    all_goals (constructor <;> assumption)
  case cancelRow p j =>
    step_cases h
    rename_i ht hg hp
    obtain ⟨hpc, rfl⟩ := hg
    exact .cancelRow hp ht hpc
  case sbatch p jobs hid =>
    cases hid <;> step_cases h <;> rename_i hg hp <;> obtain ⟨h1, h2, h3, h4, h5, h6, hf⟩ := hg
    · simpa using Step.sbatchFailed hp ⟨h1, h2, h3, h4, h5, h6⟩
    · have := Step.sbatch hp ⟨h1, h2, h3, h4, h5, h6⟩ ((freshHid_some_iff s _ _).1 hf)
      simpa only [Option.some.injEq, eq_comm] using this
  case scancel p k =>
    simp only [step] at h
    split at h
    · split at h
      · cases h; exact .scancel (getSub_eq ‹_›) ‹_›
      · cases h
    · cases h
  all_goals step_cases h
  all_goals (constructor <;> assumption)

theorem step_complete {s s' : Sys} {op : Op} (h : Step s op s') : step s op = some s' := by
  induction h
  case sbatch hp hg hf =>
    simp only [step, getSub, hp, freshHid_some_iff]
    rw [if_pos ⟨hg.1, hg.2.1, hg.2.2.1, hg.2.2.2.1, hg.2.2.2.2.1, hg.2.2.2.2.2, hf⟩]
    simp only [Option.some.injEq, eq_comm]
  case sbatchFailed hp hg =>
    simp only [step, getSub, hp]
    rw [if_pos ⟨hg.1, hg.2.1, hg.2.2.1, hg.2.2.2.1, hg.2.2.2.2.1, hg.2.2.2.2.2, rfl⟩]
    simp
  case scancel hp hg => simp only [step, getSub, hp]; rw [if_pos hg]; rfl
  all_goals (simp_all [step, getSub, getNode]) <;> (try rfl)
theorem step_iff {s s' : Sys} {op : Op} : step s op = some s' ↔ Step s op s' := ⟨step_sound, step_complete⟩

theorem step_eq_none {s : Sys} {op : Op} (h : ∀ s', ¬ Step s op s') : step s op = none :=
  Option.eq_none_iff_forall_ne_some.2 fun s' hs => h s' (step_sound hs)

theorem run_cons_iff {s s' : Sys} {op : Op} {ops : List Op} :
    run s (op :: ops) = some s' ↔ ∃ s1, Step s op s1 ∧ run s1 ops = some s' := by
  constructor
  · intro h
    simp only [run] at h
    split at h
    · next s1 hs => exact ⟨s1, step_sound hs, h⟩
    · cases h
  · rintro ⟨s1, hs, h⟩
    simp only [run, step_complete hs, h]

theorem run_inv_of {P : Sys → Prop} {G : Op → Prop}
    (hstep : ∀ {s s' : Sys} {op : Op}, P s → G op → Step s op s' → P s')
    {s s' : Sys} (ops : List Op) (hi : P s) (hG : ∀ op ∈ ops, G op) (h : run s ops = some s') : P s' := by
  induction ops generalizing s with
  | nil => cases h; exact hi
  | cons op ops ih =>
    simp only [run] at h
    split at h
    · next s1 hs =>
      exact ih (hstep hi (hG op (List.mem_cons_self ..)) (step_sound hs))
        (fun o ho => hG o (List.mem_cons_of_mem _ ho)) h
    · cases h

theorem run_inv {P : Sys → Prop} (hstep : ∀ {s s' : Sys} {op : Op}, P s → Step s op s' → P s')
    {s s' : Sys} (ops : List Op) (hi : P s) (h : run s ops = some s') : P s' :=
  run_inv_of (G := fun _ => True) (fun hi _ h => hstep hi h) ops hi (fun _ _ => trivial) h

end Jade.Sys

/- generate the on-demand auxiliary declarations once, here (see `Proofs/Realize.lean`) -/
#realize_aux Jade
