import JadeModel.Proofs.Batch

/-!
`_submit_batches` hands two lists to `Cluster.update_job_status`: the jobs it put into batches (`submitted_jobs`) and the
jobs `_make_batch` looked at and found blocked (`blocked_jobs`).  `_update_job_status` asserts that a *blocked* job is
still NOT_SUBMITTED after the submitted ones were marked SUBMITTED — so the two lists must not share a job, or the round
dies under the cluster lock with the batches already at the HPC (seeded change C05-12).

This file proves that disjointness for any batching mode.  A job recorded as blocked has usually been *looked at* for
good: its index is at most the cursor `highest_index`, everything the next `_make_batch` call of the round sees lies beyond
the cursor, so it is never looked at again in that round.  With size-based batching that is the whole argument.  With
time-based batching the cursor can roll back over a job that is in the blocked dictionary (the job became unblocked in a
later pass of the same call and then did not fit the time limit — `rollback_hands_blocked_job_on`).  Such a job IS handed
to the next call, but all its blockers sit in the batch just made, and a candidate with a blocker in an earlier batch of
the round is never placed (`doomed_not_in_batch`).
-/

namespace Jade.Batch
open Jade.Gen.Batch

/-- every job in the blocked dictionary has blockers, and either has been looked at for good (its index is at most the
    cursor) or has all its blockers in the batch -/
@[reducible] def BlkIdx (avail : List Cand) (s : MState) : Prop :=
  ∀ c ∈ s.blocked, c.blockedBy ≠ [] ∧
    ((∃ k : Nat, avail[k]? = some c ∧ (k : Int) ≤ s.hi) ∨ (∀ x ∈ c.blockedBy, x ∈ s.b.names))

theorem BlkIdx.mono {avail s s'} (h : BlkIdx avail s) (hb : ∀ d ∈ s'.blocked, d ∈ s.blocked)
    (hhi : s.hi ≤ s'.hi) (hn : ∀ x ∈ s.b.names, x ∈ s'.b.names) : BlkIdx avail s' :=
  fun d hd => (h d (hb d hd)).imp_right
    (.imp (fun ⟨k, hk, hle⟩ => ⟨k, hk, Int.le_trans hle hhi⟩) fun hr x hx => hn x (hr x hx))

theorem visit_blkIdx {p : Params} {avail s} (n i : Nat) (c : Cand) (hget : avail[i]? = some c)
    (h : BlkIdx avail s) : BlkIdx avail (visit p n s i c) := by
  have hb : BlkIdx avail (bump i s) :=
    h.mono (by simp [bump_eq]) (by simp only [bump_eq]; omega) (by simp [bump_eq])
  refine visit_ind (P := BlkIdx avail) _ _ _ _ _ (fun _ => h) (fun _ _ => hb) ?_ ?_ ?_
  · intro _ _ hblk d hd
    rw [markDone_eq] at hd
    simp only [markDone_eq, markBlocked_eq]
    rcases mem_markBlocked hd with hd | rfl
    · exact hb d hd
    · exact ⟨fun h0 => by simp [h0, isJobBlocked_nil] at hblk,
        .inl ⟨i, hget, by simp only [bump_eq]; omega⟩⟩
  · intro _ _ _ _
    exact hb.mono (fun d hd => by rw [markDone_eq] at hd; exact (List.mem_filter.1 hd).1)
      (by simp [markDone_eq, place])
      (fun x hx => by rw [markDone_eq]; exact appendJob_names .. ▸ List.mem_append_left _ hx)
  · intro _ _ hunb _ d hd
    simp only [markDone_eq, refuse_eq] at hd ⊢
    obtain ⟨hne, hr⟩ := hb d hd
    refine ⟨hne, hr.elim (fun ⟨k, hk, hle⟩ => ?_) .inr⟩
    by_cases hki : k = i
    · -- the refused job itself: it is in the not-blocked branch, so all its blockers are in the batch
      subst hki
      cases hget.symm.trans hk
      exact .inr ((isJobBlocked_false _ _ _ hunb).resolve_left hne).2
    · exact .inl ⟨k, hk, by split <;> omega⟩

/-- **`_make_batch`, any batching mode**: a job reported as blocked has blockers, and either lies at or below the cursor or
    has all its blockers in the batch just made -/
theorem makeBatch_blocked_looked_at_or_doomed (p : Params) (avail : List Cand) :
    ∀ c ∈ (makeBatch p avail).blocked, c.blockedBy ≠ [] ∧
      ((∃ k : Nat, avail[k]? = some c ∧ (k : Int) ≤ (makeBatch p avail).hi) ∨
        (∀ x ∈ c.blockedBy, x ∈ (makeBatch p avail).batch.names)) :=
  (passes_ind (I := fun _ s => BlkIdx avail s) (fun i c _ hget _ h => visit_blkIdx _ i c hget h)
    (fun _ _ h => h) _ _ (good_init p avail) nofun).2.1

structure BlkInv (cands avail : List Cand) (acc : List Submitted) (blk : List Cand) : Prop where
  sub : ∀ c ∈ blk, c ∈ cands
  notBatched : ∀ c ∈ blk, ∀ d ∈ allJobs acc, c.id ≠ d.id
  notAvail : ∀ c ∈ blk, (∀ d ∈ avail, c.id ≠ d.id) ∨ (∃ x ∈ c.blockedBy, x ∈ (allJobs acc).map (·.id))

/-- a candidate one of whose blockers sits in an earlier batch of the round is never placed -/
theorem doomed_not_in_batch {p : Params} {cands avail acc} (hnd : (cands.map (·.id)).Nodup)
    (h : LoopInv p cands avail acc) (c : Cand) (hc : c ∈ cands)
    (hx : ∃ x ∈ c.blockedBy, x ∈ (allJobs acc).map (·.id)) :
    ∀ d ∈ (makeBatch p avail).batch.jobs, c.id ≠ d.id := by
  intro d hd heq
  have hda : d ∈ avail := makeBatch_sub p avail d hd
  have hcd : c = d := eq_of_nodup_map hnd hc (h.sub d hda) heq
  subst hcd
  obtain ⟨x, hxb, hxa⟩ := hx
  rcases makeBatch_blk p avail c hd with h0 | ⟨-, hall⟩
  · rw [h0] at hxb; cases hxb
  · have hxn := hall x hxb
    obtain ⟨e, he, hex⟩ := List.mem_map.1 hxn
    obtain ⟨g, hg, hgx⟩ := List.mem_map.1 hxa
    exact h.disj g hg e (makeBatch_sub p avail e he) (by rw [hgx, hex])

theorem blkInv_step {p : Params} {cands avail acc blk} (hnd : (cands.map (·.id)).Nodup)
    (h : LoopInv p cands avail acc) (hb : BlkInv cands avail acc blk) (acc' : List Submitted)
    (hall : allJobs acc' = allJobs acc ++ (makeBatch p avail).batch.jobs) :
    BlkInv cands (makeBatch p avail).notChecked acc' (blk ++ (makeBatch p avail).blocked) := by
  have hsub' := makeBatch_notChecked_sub p avail
  refine ⟨?_, ?_, ?_⟩
  · intro c hc
    rcases List.mem_append.1 hc with hc | hc
    · exact hb.sub c hc
    · exact h.sub c (makeBatch_blocked_disjoint p avail c hc).1
  · intro c hc d hd
    rw [hall] at hd
    rcases List.mem_append.1 hc with hc | hc
    · rcases List.mem_append.1 hd with hd | hd
      · exact hb.notBatched c hc d hd
      · rcases hb.notAvail c hc with hl | hr
        · exact hl d (makeBatch_sub p avail d hd)
        · exact doomed_not_in_batch hnd h c (hb.sub c hc) hr d hd
    · rcases List.mem_append.1 hd with hd | hd
      · intro heq; exact h.disj d hd c (makeBatch_blocked_disjoint p avail c hc).1 heq.symm
      · intro heq
        apply (makeBatch_blocked_disjoint p avail c hc).2
        rw [heq]; exact List.mem_map.2 ⟨d, hd, rfl⟩
  · intro c hc
    rcases List.mem_append.1 hc with hc | hc
    · rcases hb.notAvail c hc with hl | ⟨x, hxb, hxa⟩
      · exact .inl fun d hd => hl d (hsub' d hd)
      · refine .inr ⟨x, hxb, ?_⟩
        rw [hall, List.map_append]; exact List.mem_append_left _ hxa
    · obtain ⟨hne, hr⟩ := makeBatch_blocked_looked_at_or_doomed p avail c hc
      rcases hr with ⟨i, hi, hle⟩ | hr
      · exact .inl (idx_not_notChecked p avail h.availNodup c i hi hle)
      · obtain ⟨x, hx⟩ := List.exists_mem_of_ne_nil _ hne
        refine .inr ⟨x, hx, ?_⟩
        rw [hall, List.map_append]; exact List.mem_append_right _ (hr x hx)

/-- **`_submit_batches`, any batching mode**: no job is both in a batch and in the blocked list the round hands to
    `update_job_status` -/
theorem submitBatches_blocked_disjoint_all (p : Params) (depth : Nat) (dryRun : Bool) (out : Nat) (cands : List Cand)
    (env : List Bool) (hnd : (cands.map (·.id)).Nodup) :
    ∀ c ∈ (submitBatches p depth dryRun out cands env).blocked,
      ∀ d ∈ allJobs (submitBatches p depth dryRun out cands env).batches, c.id ≠ d.id := by
  obtain ⟨_, _, _, _, _, _, heq, h, -⟩ := submitLoop_ind (p := p) (depth := depth) (dryRun := dryRun)
    (J := fun _ avail _ acc blk => LoopInv p cands avail acc ∧ BlkInv cands avail acc blk)
    (fun _ _ _ acc _ h _ =>
      ⟨fun hne => ⟨(loopInv_step h.1).1 hne _, blkInv_step hnd h.1 h.2 _ (allJobs_snoc ..)⟩,
       fun hne => ⟨(loopInv_step h.1).2,
        blkInv_step hnd h.1 h.2 acc (by simp [batch_nil_of_not_nonEmpty hne])⟩⟩)
    _ out _ env [] [] ⟨loopInv_init p cands hnd, nofun, nofun, nofun⟩
  rw [submitBatches, heq]
  exact h.2.notBatched

/-- `_submit_batches`, size-based batching: no job is both in a batch and in the blocked list the round hands to
    `update_job_status` -/
theorem submitBatches_blocked_disjoint (p : Params) (depth : Nat) (dryRun : Bool) (out : Nat) (cands : List Cand)
    (env : List Bool) (hnd : (cands.map (·.id)).Nodup) (_ : p.timeBased = false) :
    ∀ c ∈ (submitBatches p depth dryRun out cands env).blocked,
      ∀ d ∈ allJobs (submitBatches p depth dryRun out cands env).batches, c.id ≠ d.id :=
  submitBatches_blocked_disjoint_all p depth dryRun out cands env hnd

/-- time-based batching: the cursor rolls back over a job that is in the blocked dictionary — job 2 (blocked by 0) is
    marked blocked in the first pass, becomes unblocked in the second (0 rides along with its blocker 1), does not fit
    the time limit, and is handed to the next `_make_batch` call although the round already lists it as blocked -/
theorem rollback_hands_blocked_job_on :
    let r := (makeBatch { batchSize := 500, timeBased := true, tryAdd := true, maxTime := 1500 }
      [⟨0, [1], 10⟩, ⟨1, [], 10⟩, ⟨2, [0], 90⟩])
    r.batch.jobs.map (·.id) = [1, 0] ∧ r.blocked.map (·.id) = [2] ∧ r.notChecked.map (·.id) = [2] := by decide

end Jade.Batch
