import JadeModel.Proofs.SystemRowsDefs
import JadeModel.Proofs.Reference

/-! Outcome invariants (C03/C04/C12): every row is locally justified. Definitions and cheap lemmas. -/

namespace Jade.Sys

def OnDiskF (pr : List Row) (nf : Bid → List Row) (r : Row) : Prop := r ∈ pr ∨ ∃ b, r ∈ nf b

def GoodRowF (pr : List Row) (nf : Bid → List Row) (j : JobId) : Prop :=
  ∃ r, OnDiskF pr nf r ∧ r.job = j ∧ r.bad = false

def BadRowF (pr : List Row) (nf : Bid → List Row) (j : JobId) : Prop :=
  ∃ r, OnDiskF pr nf r ∧ r.job = j ∧ r.bad = true

def OnDisk (s : Sys) (r : Row) : Prop := OnDiskF s.processed s.nodeFile r

def GoodRow (s : Sys) (j : JobId) : Prop := GoodRowF s.processed s.nodeFile j

def BadRow (s : Sys) (j : JobId) : Prop := BadRowF s.processed s.nodeFile j

theorem onDisk_iff (s : Sys) (r : Row) : OnDisk s r ↔ RowOnDisk s r := Iff.rfl

theorem badRow_of_onDisk {s : Sys} {r : Row} (h : OnDisk s r) (hb : r.bad = true) : BadRow s r.job := ⟨r, h, rfl, hb⟩

theorem goodRow_of_onDisk {s : Sys} {r : Row} (h : OnDisk s r) (hb : r.bad = false) : GoodRow s r.job := ⟨r, h, rfl, hb⟩

theorem onDisk_step {s s' : Sys} {op : Op} (h : Step s op s') (r : Row) :
    OnDisk s' r ↔ OnDisk s r ∨ newRow s op = some r :=
  rowOnDisk_step_iff h r

theorem goodRow_step {s s' : Sys} {op : Op} (h : Step s op s') (b : JobId) :
    GoodRow s' b ↔ GoodRow s b ∨ ∃ r, newRow s op = some r ∧ r.job = b ∧ r.bad = false := by
  show (∃ r, OnDisk s' r ∧ _) ↔ (∃ r, OnDisk s r ∧ _) ∨ _
  simp only [onDisk_step h]; grind

theorem badRow_step {s s' : Sys} {op : Op} (h : Step s op s') (b : JobId) (hb : BadRow s b) : BadRow s' b :=
  hb.imp fun r hr => ⟨rowOnDisk_step h r hr.1, hr.2⟩

/-- plain-language forms of the decision predicates used as guards -/
theorem mustCancel_iff (sc : Scn) (x : SubP) (j : JobId) :
    mustCancel sc x j = true ↔
      (x.loc.st j = .ns ∧ x.loc.blk j ≠ [] ∧ sc.flag j = true ∧
        ∃ b ∈ x.loc.blk j, ∃ r ∈ x.pass, r.job = b ∧ r.bad = true) := by
  simp only [mustCancel, badIn, Bool.and_eq_true, beq_iff_eq, Bool.not_eq_true', List.isEmpty_eq_false_iff,
    List.any_eq_true]
  grind

theorem cancelSetOk_iff (sc : Scn) (x : SubP) (ks : List JobId) (h : cancelSetOk sc x ks = true) :
    (∀ j ∈ ks, j < sc.n ∧ mustCancel sc x j = true) ∧ (∀ j, j < sc.n → mustCancel sc x j = true → j ∈ ks) := by
  simp only [cancelSetOk, Bool.and_eq_true, List.all_eq_true, decide_eq_true_eq, Bool.or_eq_true,
    Bool.not_eq_true', List.mem_range, List.contains_eq_mem] at h
  grind

theorem nodeCancel_guard_iff (n : NodeP) (j : JobId) :
    ((n.nblk j).any (fun b => badIn n.seen b)) = true ↔ ∃ b ∈ n.nblk j, ∃ r ∈ n.seen, r.job = b ∧ r.bad = true := by
  simp only [badIn, List.any_eq_true, Bool.and_eq_true, beq_iff_eq]

/-- auxiliary facts: remaining-blocker sets are subsets of the configured ones, what a process has
    seen is on disk, pending cancel decisions are justified -/
structure OutcomeA (s : Sys) : Prop where
  subDisk : ∀ j b, b ∈ s.disk.blk j → b ∈ s.sc.blockers j
  subLoc : ∀ q a y, s.procs q = .sub a y → ∀ j b, b ∈ y.loc.blk j → b ∈ s.sc.blockers j
  subBatch : ∀ B ∈ s.batches, ∀ j b, b ∈ B.handed j → b ∈ s.sc.blockers j
  subNode : ∀ p a n, s.procs p = .node a n → ∀ j b, b ∈ n.nblk j → b ∈ s.sc.blockers j
  passOn : ∀ q a y, s.procs q = .sub a y → ∀ r ∈ y.pass, OnDisk s r
  seenOn : ∀ p a n, s.procs p = .node a n → ∀ r ∈ n.seen, OnDisk s r
  toCancelOk : ∀ q a y, s.procs q = .sub a y → ∀ j ∈ y.toCancel,
    s.sc.flag j = true ∧ ∃ b ∈ s.sc.blockers j, BadRow s b
  runningStarted : ∀ p a n, s.procs p = .node a n → ∀ j ∈ n.running, j ∈ s.starts.map (·.1)
  newlyDisj : ∀ q a y, s.procs q = .sub a y → ∀ j, y.loc.st j = .ns → ∀ b ∈ y.loc.blk j, b ∉ y.newly

theorem outcomeA_init (sc : Scn) : OutcomeA (init sc) := by
  refine ⟨?_, ?_, ?_, ?_, ?_, ?_, ?_, ?_, ?_⟩ <;> simp [init]

/-- every row is locally justified; a flagged job waits (or has been started) only while each of its
    blockers is still listed or has a successful row -/
structure OutcomeB (s : Sys) : Prop where
  lc1 : ∀ r, OnDisk s r → r.canceled = false → r.rc = s.sc.rc r.job ∧ r.job ∈ s.starts.map (·.1)
  lc2 : ∀ r, OnDisk s r → r.canceled = true →
    s.sc.flag r.job = true ∧ r.rc = 1 ∧ ∃ b ∈ s.sc.blockers r.job, BadRow s b
  flagDisk : ∀ j, j < s.sc.n → s.sc.flag j = true → s.disk.st j = .ns →
    ∀ b ∈ s.sc.blockers j, b ∈ s.disk.blk j ∨ GoodRow s b
  flagLoc : ∀ q a y, s.procs q = .sub a y → ∀ j, j < s.sc.n → s.sc.flag j = true → y.loc.st j = .ns →
    ∀ b ∈ s.sc.blockers j, b ∈ y.loc.blk j ∨ GoodRow s b
  flagBatch : ∀ B ∈ s.batches, ∀ j ∈ B.jobs, s.sc.flag j = true →
    ∀ b ∈ s.sc.blockers j, b ∈ B.handed j ∨ GoodRow s b
  flagNode : ∀ p a n, s.procs p = .node a n → ∀ j ∈ n.queued, s.sc.flag j = true →
    ∀ b ∈ s.sc.blockers j, b ∈ n.nblk j ∨ GoodRow s b
  lc3 : ∀ j ∈ s.starts.map (·.1), s.sc.flag j = true → ∀ b ∈ s.sc.blockers j, GoodRow s b

theorem outcomeB_init (sc : Scn) : OutcomeB (init sc) := by
  refine ⟨?_, ?_, ?_, ?_, ?_, ?_, ?_⟩ <;> simp [init, OnDisk, OnDiskF]
  intro j _ _ b hb; exact Or.inl hb

/-- the configuration of a scenario as a dependency graph -/
def Scn.graph (sc : Scn) : Jade.Ref.Graph := { n := sc.n, blockers := sc.blockers, flag := sc.flag, rc := sc.rc }

def Row.outcome (r : Row) : Jade.Ref.Outcome := ⟨r.canceled, r.rc⟩

theorem Row.outcome_bad (r : Row) : r.outcome.bad = r.bad := rfl

/-- "job `j` has a recorded row with outcome `o`" -/
def RowFor (s : Sys) (j : JobId) (o : Jade.Ref.Outcome) : Prop := ∃ r, OnDisk s r ∧ r.job = j ∧ r.outcome = o

def StartedJ (s : Sys) (j : JobId) : Prop := j ∈ s.starts.map (·.1)

/-- the local invariants are exactly the premises of the graph lemma -/
theorem outcome_local {s : Sys} (hb : OutcomeB s) : Jade.Ref.Local s.sc.graph (RowFor s) (StartedJ s) := by
  refine ⟨?_, ?_, ?_⟩
  · rintro j o ⟨r, hr, rfl, rfl⟩ hc
    exact hb.lc1 r hr hc
  · rintro j o ⟨r, hr, rfl, rfl⟩ hc
    obtain ⟨h1, h2, b, hbb, r', hr', hj', hbad⟩ := hb.lc2 r hr hc
    exact ⟨h1, h2, b, hbb, r'.outcome, ⟨r', hr', hj', rfl⟩, hbad⟩
  · intro j hj hf b hbb
    obtain ⟨r', hr', hj', hgood⟩ := hb.lc3 j hj hf b hbb
    exact ⟨r'.outcome, ⟨r', hr', hj', rfl⟩, hgood⟩

#realize_aux Jade

end Jade.Sys
