import JadeModel.Gen.Round
import JadeModel.Proofs.SystemBase

/-!
The decision rules and the statement order of a submitter round, as *generated from the current source*
(`Gen/Round.lean`, sites `round.*`), are the ones the hand-written system model uses.  If the source
changes — `_update_completed_jobs` tests something else than `return_code != 0`, the cancel rule or
`_is_complete` changes, two statements of `HpcSubmitter.run` are swapped, the cancel gate goes away —
the generated definitions change and one of these theorems no longer checks.
-/

namespace Jade.Sys
open Jade.Gen.Round

/-- the model's round is `HpcSubmitter.run`'s statement order -/
theorem runOrder_eq : runOrder = [.poll, .collect, .markerCheck, .mark, .submit, .persist, .decide, .unmark] := rfl

/-- program counter before/after each statement in the model -/
def actPcs : Act → SPc × SPc
  | .poll => (.loaded, .collecting)
  | .collect => (.collecting, .ready)
  | .markerCheck => (.ready, .ready)
  | .mark => (.ready, .marked)
  | .submit => (.marked, .marked)
  | .persist => (.marked, .persisted)
  | .decide => (.persisted, .persisted)
  | .unmark => (.persisted, .unmarked)

def chained : List (SPc × SPc) → Bool
  | a :: b :: rest => a.2 == b.1 && chained (b :: rest)
  | _ => true

/-- consecutive statements of the source connect in the model: each starts where the previous ended,
    from `loaded` (after promotion) to `unmarked` (before `finally: demote`) -/
theorem runOrder_chained :
    chained (runOrder.map actPcs) = true ∧ (runOrder.map actPcs).head? = some (.loaded, .collecting) ∧
    (runOrder.map actPcs).getLast? = some (.persisted, .unmarked) := by decide

/-- …and these are the pcs the step function demands and produces -/
def pcOf (s : Sys) (p : Pid) : Option SPc := (getSub s p).map (·.pc)

/-- the model's completion decision is the generated `_is_complete` -/
theorem isCompleteDecision_gen (n : Nat) (st : Status) :
    isCompleteDecision n st = isCompleteRule ((List.range n).all (fun j => st.st j == .done)) st.ids := by
  simp only [isCompleteDecision, isCompleteRule]
  cases (List.range n).all (fun j => st.st j == .done) <;> simp

theorem pcOf_setSub (s : Sys) (p : Pid) (x : SubP) : pcOf (setSub s p x) p = some x.pc := by
  simp [pcOf, getSub, setSub, setProc]

theorem pcOf_eq {s : Sys} {p : Pid} {x : SubP} (hp : s.procs p = .sub true x) : pcOf s p = some x.pc := by
  simp [pcOf, getSub, hp]

def pcsAre (s s' : Sys) (p : Pid) (a : Act) : Prop := pcOf s p = some (actPcs a).1 ∧ pcOf s' p = some (actPcs a).2

theorem poll_pcs {s s' : Sys} {p : Pid} {g : List Hid} (h : step s (.poll p g) = some s') : pcsAre s s' p .poll := by
  cases step_sound h with
  | poll hp hg => exact ⟨by rw [pcOf_eq hp, hg.1]; rfl, pcOf_setSub ..⟩

theorem collectDone_pcs {s s' : Sys} {p : Pid} (h : step s (.collectDone p) = some s') : pcsAre s s' p .collect := by
  cases step_sound h with
  | collectDone hp hg => exact ⟨by rw [pcOf_eq hp, hg.1]; rfl, pcOf_setSub ..⟩

theorem mark_pcs {s s' : Sys} {p : Pid} (h : step s (.mark p) = some s') : s.marker = false ∧ pcsAre s s' p .mark := by
  cases step_sound h with
  | mark hp hg => exact ⟨by simpa using hg.2, by rw [pcOf_eq hp, hg.1]; rfl, pcOf_setSub ..⟩

theorem sbatch_pcs {s s' : Sys} {p : Pid} {jobs : List JobId} {hid : Option Hid} (h : step s (.sbatch p jobs hid) = some s') :
    pcsAre s s' p .submit ∧
      -- the cancel gate of the source
      (submitGatedByCancel = true → ∀ x, getSub s p = some x → x.loc.canceled = false) := by
  have gate {x : SubP} (hp : s.procs p = .sub true x) (hc : (!x.loc.canceled) = true) :
      ∀ y, getSub s p = some y → y.loc.canceled = false := fun y hy => by
    rw [getSub_eq hy] at hp; cases hp; simpa using hc
  cases step_sound h with
  | sbatch hp hg => exact ⟨⟨by rw [pcOf_eq hp, hg.1]; rfl, by rw [pcOf_setSub]; exact congrArg some hg.1⟩, fun _ => gate hp hg.2.1⟩
  | sbatchFailed hp hg => exact ⟨⟨by rw [pcOf_eq hp, hg.1]; rfl, by rw [pcOf_setSub]; exact congrArg some hg.1⟩, fun _ => gate hp hg.2.1⟩

theorem persist_pcs {s s' : Sys} {p : Pid} (h : step s (.persist p) = some s') :
    pcsAre s s' p .persist ∧
      -- the ids written are the queue's outstanding ids
      (persistsOutstanding = true → ∀ x, getSub s p = some x → s'.disk.ids = x.out) := by
  cases step_sound h with
  | persist hp hg =>
    refine ⟨⟨by rw [pcOf_eq hp, hg]; rfl, pcOf_setSub ..⟩, fun _ y hy => ?_⟩
    rw [getSub_eq hy] at hp; cases hp; rfl

theorem unmark_pcs {s s' : Sys} {p : Pid} (h : step s (.unmark p) = some s') :
    pcsAre s s' p .unmark ∧
      -- `decide` precedes `unmark`: the decision is the generated rule on the persisted copy
      (∀ x, getSub s p = some x → (getSub s' p).map (·.decided) =
        some (isCompleteRule ((List.range s.sc.n).all (fun j => x.loc.st j == .done)) x.loc.ids)) := by
  cases step_sound h with
  | unmark hp hg =>
    refine ⟨⟨by rw [pcOf_eq hp, hg.1]; rfl, pcOf_setSub ..⟩, fun y hy => ?_⟩
    rw [getSub_eq hy] at hp; cases hp
    simp [getSub, setSub, setProc, isCompleteDecision_gen]

/-- the model's "bad row" test is the generated `return_code != 0` (a canceled row carries the generated
    cancel code, which is non-zero) -/
theorem bad_eq_failedResult (r : Row) (h : r.canceled = true → r.rc = cancelCode) : r.bad = failedResult r.rc := by
  unfold Row.bad failedResult
  cases hc : r.canceled with
  | false => simp
  | true => rw [h hc]; decide

/-- the row `cancelRow` appends is `_cancel_job`'s -/
theorem cancelRow_row (j : JobId) : ({ job := j, rc := 1, canceled := true } : Row) = { job := j, rc := cancelCode, canceled := true } := rfl

/-- the model's cancel decision is the generated rule (under the source's `NOT_SUBMITTED` scan and
    `if job.blocked_by:`) -/
theorem mustCancel_gen (sc : Scn) (x : SubP) (j : JobId) :
    mustCancel sc x j =
      (x.loc.st j == .ns && !(x.loc.blk j).isEmpty && cancelRule (sc.flag j) ((x.loc.blk j).any (fun b => badIn x.pass b))) := by
  simp only [mustCancel, cancelRule, Bool.and_assoc]

/-- a pass always happens before the collection ends in a fault-free round (`need_to_rerun = True` initially) -/
theorem collect_at_least_once : collectAtLeastOnce = true := rfl

end Jade.Sys

namespace Jade.Sys
open Jade.Gen.Round

/-- the source accumulates `newly_completed` over all passes of a round (C08: every collected result is
    reported by the round that collected it) — as the model's `passEnd` does -/
theorem newly_accumulates : newlyAccumulatesAcrossPasses = true := rfl

theorem passEnd_newly_grows {s s' : Sys} {p : Pid} {ks : List JobId} (h : step s (.passEnd p ks) = some s') :
    ∀ x x', getSub s p = some x → getSub s' p = some x' →
      (∀ j ∈ x.newly, j ∈ x'.newly) ∧ (∀ r ∈ x.pass, r.job ∈ x'.newly) := by
  intro x x' hx hx'
  cases step_sound h with
  | passEnd hp hg =>
    rw [getSub_eq hx] at hp; cases hp
    simp only [getSub, setSub, setProc, if_true, Option.some.injEq] at hx'
    subst hx'
    refine ⟨fun j hj => List.mem_append_left _ hj, fun r hr => ?_⟩
    by_cases hin : r.job ∈ x.newly
    · exact List.mem_append_left _ hin
    · exact List.mem_append_right _ (List.mem_filter.2 ⟨List.mem_map_of_mem hr, by simpa using hin⟩)

end Jade.Sys
