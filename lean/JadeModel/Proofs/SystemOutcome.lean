import JadeModel.Proofs.Reference
import JadeModel.Proofs.SystemOutcomeDefs

/-! Outcome invariants (C03/C04/C12): preserved by every accepted event, hence along every run. -/

namespace Jade.Sys

/- A clause that speaks of the rows on disk is closed by the same clause of `s` for every event that writes no row
   (`OnDisk`, `GoodRow`, `BadRow` of the successor unfold to those of `s`); the three that do (`cancelRow`, `nodeRow`, `nodeCancel`) use `onDisk_step`,
   `goodRow_step`, `badRow_step`. -/

theorem outcomeA_step {s s' : Sys} {op : Op} (hi : OutcomeA s) (h : Step s op s') : OutcomeA s' where
  subDisk := by
    induction h <;> first | exact hi.subDisk | (frame_goal; grind [hi.subDisk, → hi.subLoc, persistStatus])
  subLoc := by
    induction h <;> intro q a y hq <;> proc_cases at hq from hi.subLoc <;>
      (frame_goal; grind [hi.subDisk, → hi.subLoc, persistStatus, SubP.load])
  subBatch := by
    have := hi.subBatch
    induction h <;> first | assumption | (have := hi.subLoc; frame_goal; grind)
  subNode := by
    induction h <;> intro q a y hq <;> proc_cases at hq from hi.subNode <;> (frame_goal; grind [→ hi.subNode, hi.subBatch])
  passOn := by
    have hd := onDisk_step h
    induction h <;> intro q a y hq <;> proc_cases at hq from hi.passOn <;>
      (simp only [hd, newRow, reduceCtorEq, or_false]; grind [→ hi.passOn, OnDisk, OnDiskF, SubP.load])
  seenOn := by
    have hd := onDisk_step h
    induction h <;> intro q a y hq <;> proc_cases at hq from hi.seenOn <;>
      (simp only [hd, newRow, reduceCtorEq, or_false]; grind [→ hi.seenOn])
  toCancelOk := by
    have hB := badRow_step h
    induction h <;> intro q a y hq
    -- a job the pass cancels has a blocker with a bad row in `pass`, and `pass` is on disk
    case passEnd hp _ =>
      have a5 := hi.passOn _ _ _ hp; have a2 := hi.subLoc _ _ _ hp
      proc_cases at hq <;> (frame_goal; grind [→ hi.toCancelOk, cancelSetOk_iff, mustCancel_iff, badRow_of_onDisk])
    all_goals proc_cases at hq from hi.toCancelOk <;> (frame_goal; grind [→ hi.toCancelOk, SubP.load])
  runningStarted := by
    induction h <;> intro q a y hq <;> proc_cases at hq from hi.runningStarted <;> (frame_goal; grind [→ hi.runningStarted])
  newlyDisj := by
    induction h <;> intro q a y hq <;> proc_cases at hq from hi.newlyDisj <;> grind [→ hi.newlyDisj, persistStatus, SubP.load]

theorem outcomeB_step {s s' : Sys} {op : Op} (ha : OutcomeA s) (hi : OutcomeB s) (h : Step s op s') :
    OutcomeB s' where
  lc1 := by
    simp only [onDisk_step h]
    induction h <;> simp only [newRow, reduceCtorEq, or_false] <;>
      first | exact hi.lc1 | (frame_goal; grind [hi.lc1, → ha.runningStarted])
  lc2 := by
    have hB := badRow_step h
    simp only [onDisk_step h]
    induction h <;> simp only [newRow, reduceCtorEq, or_false] <;> first | exact hi.lc2 | skip
    case cancelRow hp _ _ => have a7 := ha.toCancelOk _ _ _ hp; frame_goal; grind [→ hi.lc2]
    case nodeCancel hp _ =>
      have a6 := ha.seenOn _ _ _ hp; have a4 := ha.subNode _ _ _ hp
      frame_goal; grind [→ hi.lc2, nodeCancel_guard_iff, badRow_of_onDisk]
    all_goals (frame_goal; grind [→ hi.lc2])
  flagDisk := by
    have hG := fun b => (goodRow_step h b).2 ∘ .inl
    induction h <;> first | exact hi.flagDisk | (frame_goal; grind [hi.flagDisk, → hi.flagLoc, persistStatus])
  flagLoc := by
    have hG := fun b => (goodRow_step h b).2 ∘ .inl
    induction h <;> intro q a y hq
    -- a blocker the pass drops has a row in `pass` or is in `newly`; a bad row would have put `j` among
    -- the canceled jobs, and `newly` holds no blocker of a waiting job
    case passEnd hp _ =>
      have a5 := ha.passOn _ _ _ hp; have a9 := ha.newlyDisj _ _ _ hp
      proc_cases at hq <;> (frame_goal; grind [→ hi.flagLoc, cancelSetOk_iff, mustCancel_iff, goodRow_of_onDisk])
    all_goals proc_cases at hq from hi.flagLoc <;>
      (frame_goal; grind [→ hi.flagLoc, hi.flagDisk, persistStatus, SubP.load])
  flagBatch := by
    have hG := fun b => (goodRow_step h b).2 ∘ .inl
    have := hi.flagBatch
    induction h <;> first | assumption | (have := hi.flagLoc; frame_goal; grind)
  flagNode := by
    have hG := goodRow_step h
    induction h <;> intro q a y hq <;> proc_cases at hq from hi.flagNode <;>
      (simp only [newRow, reduceCtorEq, exists_false, or_false] at hG; frame_goal
       grind [→ hi.flagNode, hi.flagBatch, find?_hid])
  lc3 := by
    have hG := fun b => (goodRow_step h b).2 ∘ .inl
    induction h <;> first | exact hi.lc3 | (frame_goal; grind [hi.lc3, → hi.flagNode])

theorem outcome_reach (sc : Scn) (ops : List Op) (s : Sys) (h : run (init sc) ops = some s) :
    OutcomeA s ∧ OutcomeB s :=
  run_inv (P := fun s => OutcomeA s ∧ OutcomeB s)
    (fun hi h => ⟨outcomeA_step hi.1 h, outcomeB_step hi.1 hi.2 h⟩) ops ⟨outcomeA_init sc, outcomeB_init sc⟩ h

end Jade.Sys
