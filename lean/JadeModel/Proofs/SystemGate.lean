import JadeModel.Proofs.System
import JadeModel.Proofs.SystemGateDefs

/-! Cancel is final (C14); completion happens once, after the summary, and ends submission (C05 safety):
    `GateInv` is preserved by every accepted event, hence along every run. -/

namespace Jade.Sys

/-! The conclusions of `cancelOut` and `completeOut` as one Boolean function of the phase each: `grind` evaluates
    the function where it would split the conjunction of disequalities in every branch. -/

/-- the phases cancel-jobs can be in -/
def cancelPc (pc : SPc) (decided : Bool) : Bool :=
  match pc with
  | .marked | .collecting | .ready | .persisted | .summarized => false
  | .unmarked => !decided
  | _ => true

theorem cancelPc_iff (pc : SPc) (d : Bool) :
    (pc ≠ .marked ∧ pc ≠ .collecting ∧ pc ≠ .ready ∧ pc ≠ .persisted ∧ pc ≠ .summarized ∧ (pc = .unmarked → d = false)) ↔
      cancelPc pc d = true := by
  cases pc <;> simp [cancelPc]

/-- the phases of a holder that saw the submission complete -/
def donePc (pc : SPc) (decided : Bool) : Bool :=
  match pc with
  | .unmarked => !decided
  | pc => !inRound pc

theorem donePc_iff (pc : SPc) (d : Bool) :
    ((pc = .summarized → False) ∧ inRound pc = false ∧ (pc = .unmarked → d = false)) ↔ donePc pc d = true := by
  cases pc <;> simp [donePc, inRound]

theorem gateInv_step {s s' : Sys} {op : Op} (hi : GateInv s) (h : Step s op s') : GateInv s' where
  role := roleInv_step hi.role h
  flags := by
    induction h <;> intro q a y hq <;> frame_simp at hq
    case persist | persistCfg | persistJobs | flag | markCanceled => proc_cases at hq from hi.flags <;> grind [→ hi.role.holder, holds, persistStatus]
    all_goals proc_cases at hq from hi.flags <;> grind [holds, SubP.load]
  completeOut := by
    have hc := hi.completeOut
    simp only [donePc_iff] at hc ⊢
    induction h <;> intro q a y hq <;> frame_simp at hq
    all_goals proc_cases at hq from hc <;> grind [holds, donePc, inRound, SubP.load, persistStatus]
  cancelOut := by
    have hc := hi.cancelOut
    simp only [cancelPc_iff] at hc ⊢
    induction h <;> intro q a y hq <;> frame_simp at hq
    all_goals proc_cases at hq from hc <;> grind [cancelPc, SubP.load]
  late := by
    have g4 := hi.late
    induction h <;> frame_goal
    -- whoever holds the marker has the disk's flags in memory and is in a round, so neither flag is set
    case sbatch hp hg _ | sbatchFailed hp hg =>
      have g1 := hi.flags _ _ _ hp; have g2 := hi.completeOut _ _ _ hp
      grind [holds, inRound]
    all_goals first | exact g4 | grind
  once := by
    have g5 := hi.once
    induction h <;> frame_goal
    case persist hp hg | persistJobs hp hg =>
      have g1 := hi.flags _ _ _ hp
      grind [holds, persistStatus]
    all_goals first | exact g5 | grind

/-- the canceled flag is never taken back: a role holder writes its own copy of it, which is the disk's -/
theorem canceledFlag_step {s s' : Sys} {op : Op} (hi : GateInv s) (h : Step s op s') (hc : s.disk.canceled = true) :
    s'.disk.canceled = true := by
  induction h <;> frame_goal
  case persist hp hg | persistJobs hp hg =>
    have := hi.flags _ _ _ hp
    grind [holds, persistStatus]
  all_goals first | exact hc | rfl

theorem summarized_step {s s' : Sys} {op : Op} (h : Step s op s') {q : Pid} {a : Bool} {y : SubP}
    (hq : s'.procs q = .sub a y) (hpc : y.pc = .summarized) :
    (∃ a' y', s.procs q = .sub a' y' ∧ y'.pc = .summarized) ∨ op = .summary q := by
  induction h <;> frame_simp at hq <;> proc_cases at hq <;> first | exact Or.inl ⟨_, _, hq, hpc⟩ | grind [SubP.load]

theorem gateInv_run {s s' : Sys} (ops : List Op) (hi : GateInv s) (h : run s ops = some s') : GateInv s' :=
  run_inv gateInv_step ops hi h

end Jade.Sys
