import JadeModel.Proofs.SystemBase

/-! The role invariant, orphaned markers and the batch ledger are preserved by every accepted event. -/

namespace Jade.Sys

theorem roleInv_step {s s' : Sys} {op : Op} (hi : RoleInv s) (h : Step s op s') : RoleInv s' where
  holder := by
    induction h <;> intro q a y hq <;> proc_cases at hq <;>
      first | exact hi.holder _ _ _ hq | (frame_goal; grind [→ hi.holder, holds, SubP.load])
  markerOf := by
    induction h <;> intro q a y hq
    case mark | unmark => proc_cases at hq <;> (frame_goal; grind [→ hi.markerOf, → hi.marked, → hi.holder, holds])
    all_goals proc_cases at hq from hi.markerOf <;> (frame_goal; grind [→ hi.markerOf, holds, SubP.load])
  marked := by
    induction h <;> intro q a y hq <;> proc_cases at hq from hi.marked <;> grind [→ hi.marked, SubP.load]
  pendMarker := by
    induction h <;> intro q a y hq <;> proc_cases at hq from hi.pendMarker <;>
      grind [→ hi.pendMarker, → hi.marked, → hi.persistedPend, SubP.load]
  persistedPend := by
    induction h <;> intro q a y hq <;> proc_cases at hq from hi.persistedPend <;> grind [→ hi.persistedPend, SubP.load]

/-- an orphaned marker stays: `mark` needs the marker absent, `unmark` a process that owns it -/
theorem orphan_step {s s' : Sys} {op : Op} (ho : Orphan s) (h : Step s op s') : Orphan s' := by
  constructor
  · induction h <;> first | exact ho.1 | (frame_goal <;> grind [owns, ho.1, → ho.2])
  · induction h <;> intro q a y hq <;> proc_cases at hq from ho.2 <;> grind [owns, SubP.load, ho.1, → ho.2]

theorem nodup_snoc {bs : List Batch} {b : Batch} (n1 : (bs.flatMap (·.jobs)).Nodup)
    (n2 : (bs.map (·.bid)).Nodup) (hnd : b.jobs.Nodup) (f1 : ∀ j ∈ b.jobs, j ∉ bs.flatMap (·.jobs))
    (f2 : b.bid ∉ bs.map (·.bid)) :
    ((bs ++ [b]).flatMap (·.jobs)).Nodup ∧ ((bs ++ [b]).map (·.bid)).Nodup := by
  simp only [List.flatMap_append, List.flatMap_cons, List.flatMap_nil, List.append_nil, List.map_append, List.map_cons,
    List.map_nil, List.nodup_append]
  grind

/-- the ledger stays free of duplicates: what the role holder hands out is new (`sbatch_fresh`) -/
theorem batches_nodup_step {s s' : Sys} {op : Op} (hi : BatchInv s) (h : Step s op s') :
    (s'.batches.flatMap (·.jobs)).Nodup ∧ (s'.batches.map (·.bid)).Nodup := by
  induction h with
  | sbatch hp hg | sbatchFailed hp hg =>
    obtain ⟨f1, f2⟩ := sbatch_fresh hi hp hg.1 fun j hj => ⟨(hg.2.2.2.2.2 j hj).1, (hg.2.2.2.2.2 j hj).2.1⟩
    exact nodup_snoc hi.jobsNodup hi.idsNodup hg.2.2.2.1 f1 f2
  | _ => exact ⟨hi.jobsNodup, hi.idsNodup⟩

/-- a job or a batch index that is accounted for stays so: `persist` moves what is pending to disk, and a holder that
    steps down with batches pending still has its marker, which is orphaned from then on -/
theorem covered_step {s s' : Sys} {op : Op} (hi : BatchInv s) (h : Step s op s') :
    (∀ j, s.disk.st j ≠ .ns ∨ j ∈ holderPend s ∨ Orphan s → s'.disk.st j ≠ .ns ∨ j ∈ holderPend s' ∨ Orphan s') ∧
    (∀ n, n < s.disk.bidx ∨ n < holderBidx s ∨ Orphan s → n < s'.disk.bidx ∨ n < holderBidx s' ∨ Orphan s') := by
  by_cases ho : Orphan s
  · exact ⟨fun _ _ => .inr (.inr (orphan_step ho h)), fun _ _ => .inr (.inr (orphan_step ho h))⟩
  simp only [ho, or_false, mem_holderPend, lt_holderBidx]
  induction h <;> frame_goal
  case persist hp hg | persistJobs hp hg =>
    have := hi.role.holder _ _ _ hp; have := hi.locBidx _ _ _ hp; grind [hi.locSt _ _ _ hp, holds, persistStatus]
  case demote hp hg hs =>
    simp only [Orphan]; frame_goal
    grind [hi.role.pendMarker _ _ _ hp, hi.locBidxEq _ _ _ hp, → hi.role.markerOf, → hi.role.holder, owns, holds]
  all_goals grind [SubP.load]

theorem batchInv_step {s s' : Sys} {op : Op} (hi : BatchInv s) (h : Step s op s') : BatchInv s' where
  role := roleInv_step hi.role h
  locSt := by
    induction h <;> intro q a y hq <;> proc_cases at hq from hi.locSt <;>
      (frame_goal; grind [→ hi.locSt, → hi.role.holder, holds, SubP.load, persistStatus])
  locBidx := by
    induction h <;> intro q a y hq <;> proc_cases at hq from hi.locBidx <;>
      (frame_goal; grind [→ hi.locBidx, → hi.role.holder, holds, SubP.load, persistStatus])
  locBidxEq := by
    induction h <;> intro q a y hq <;> proc_cases at hq from hi.locBidxEq <;>
      (frame_goal; grind [→ hi.locBidxEq, → hi.role.holder, holds, SubP.load, persistStatus, List.append_eq_nil_iff])
  jobs := by
    have hj := hi.jobs
    have hc := (covered_step hi h).1
    induction h with
    | @sbatch p x _ _ hp hg | @sbatchFailed p x _ hp hg =>
      intro b hb j hjb
      frame_simp at hb
      rcases List.mem_append.1 hb with hb | hb
      · exact hc j (hj b hb j hjb)
      · cases List.mem_singleton.1 hb
        have := hi.role.holder p true x hp (by rw [hg.1]; rfl)
        exact .inr (.inl (mem_holderPend.2 ⟨p, true, _, this, if_pos rfl, List.mem_append_right _ hjb⟩))
    | _ => exact fun b hb j hjb => hc j (hj b hb j hjb)
  ids := by
    have hb := hi.ids
    have hc := (covered_step hi h).2
    induction h with
    | @sbatch p x _ _ hp hg | @sbatchFailed p x _ hp hg =>
      intro b hb'
      frame_simp at hb'
      rcases List.mem_append.1 hb' with hb' | hb'
      · exact hc _ (hb b hb')
      · cases List.mem_singleton.1 hb'
        have := hi.role.holder p true x hp (by rw [hg.1]; rfl)
        exact .inr (.inl (lt_holderBidx.2 ⟨p, true, _, this, if_pos rfl, Nat.lt_succ_self _⟩))
    | _ => exact fun b hb' => hc _ (hb b hb')
  jobsNodup := (batches_nodup_step hi h).1
  idsNodup := (batches_nodup_step hi h).2

theorem batchInv_run {s s' : Sys} (ops : List Op) (hi : BatchInv s) (h : run s ops = some s') : BatchInv s' :=
  run_inv batchInv_step ops hi h

end Jade.Sys
