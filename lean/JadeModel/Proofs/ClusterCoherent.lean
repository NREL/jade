import JadeModel.Proofs.Cluster

/-!
`Coherent`: what holds of the cluster files and of every handle after ANY sequence of API calls (no role protocol
assumed), as long as nobody tampers with the files behind the API's back.
-/

namespace Jade.Cluster
open Jade.Gen.Cluster

structure Coherent (s : Sys) : Prop where
  agreeCfg : s.disk.cfg.version = s.disk.cfgVer
  agreeJs : s.disk.js.version = s.disk.jsVer
  present : s.disk.cfgMissing = false
  le : ∀ (h : Hid) (x : Handle), s.handles h = some x → x.cfg.version ≤ s.disk.cfgVer
  cur : ∀ (h : Hid) (x : Handle), s.handles h = some x → x.cfg.version = s.disk.cfgVer →
    x.cfg.submitter = s.disk.cfg.submitter
  /-- the value behind a current handle's remembered config hash is the config on disk -/
  hash : ∀ (h : Hid) (x : Handle) (c : CfgView), s.handles h = some x → x.cfgHash = some (Snap.cfg c) →
    x.cfg.version = s.disk.cfgVer → c = s.disk.cfg
  /-- `_config_hash` never holds the hash of a job status -/
  hashWf : ∀ (h : Hid) (x : Handle) (j : JsView), s.handles h = some x → x.cfgHash ≠ some (Snap.js j)

/-- what `Coherent` asks of one handle, given the files -/
def Fits (d : Disk) (x : Handle) : Prop :=
  x.cfg.version ≤ d.cfgVer ∧
  (x.cfg.version = d.cfgVer →
    x.cfg.submitter = d.cfg.submitter ∧ ∀ c : CfgView, x.cfgHash = some (Snap.cfg c) → c = d.cfg) ∧
  ∀ j : JsView, x.cfgHash ≠ some (Snap.js j)

theorem Coherent.fits {s : Sys} (hI : Coherent s) {h : Hid} {x : Handle} (hx : s.handles h = some x) : Fits s.disk x :=
  ⟨hI.le h x hx, fun hv => ⟨hI.cur h x hx hv, fun c hc => hI.hash h x c hx hc hv⟩, fun j => hI.hashWf h x j hx⟩

theorem Coherent.fits_new {s : Sys} (hI : Coherent s) (host : Host) : Fits s.disk (newHandle host s.disk) :=
  ⟨Nat.le_of_eq hI.agreeCfg, fun _ => ⟨rfl, fun _ hc => nomatch hc⟩, fun _ hc => nomatch hc⟩

theorem Coherent.of_fits {s : Sys} (hc : s.disk.cfg.version = s.disk.cfgVer) (hj : s.disk.js.version = s.disk.jsVer)
    (hp : s.disk.cfgMissing = false) (hf : ∀ (q : Hid) (z : Handle), s.handles q = some z → Fits s.disk z) : Coherent s :=
  ⟨hc, hj, hp, fun q z hz => (hf q z hz).1, fun q z hz hv => ((hf q z hz).2.1 hv).1,
    fun q z c hz hc hv => ((hf q z hz).2.1 hv).2 c hc, fun q z j hz => (hf q z hz).2.2 j⟩

/-- The config pair of the new disk is the old one or has a higher version (so that every old handle is stale), and
    every handle is an old one or `y`, which fits the new disk. -/
theorem Coherent.update {s s' : Sys} (hI : Coherent s) (y : Handle)
    (hh : ∀ (q : Hid) (z : Handle), s'.handles q = some z → s.handles q = some z ∨ z = y)
    (hc : s'.disk.cfg.version = s'.disk.cfgVer) (hj : s'.disk.js.version = s'.disk.jsVer) (hp : s'.disk.cfgMissing = false)
    (hd : s'.disk.cfg = s.disk.cfg ∧ s'.disk.cfgVer = s.disk.cfgVer ∨ s.disk.cfgVer < s'.disk.cfgVer)
    (hy : Fits s'.disk y) : Coherent s' := by
  refine .of_fits hc hj hp fun q z hz => ?_
  rcases hh q z hz with hz | rfl
  · obtain ⟨f1, f2, f3⟩ := hI.fits hz
    rcases hd with ⟨e1, e2⟩ | e
    · exact ⟨e2 ▸ f1, fun hv => e1 ▸ f2 (hv.trans e2), f3⟩
    · exact ⟨by omega, fun hv => by omega, f3⟩
  · exact hy

theorem Coherent.marker {s : Sys} (hI : Coherent s) (m : Bool) :
    Coherent { s with disk := { s.disk with marker := m } } :=
  ⟨hI.agreeCfg, hI.agreeJs, hI.present, hI.le, hI.cur, hI.hash, hI.hashWf⟩

theorem Coherent.acted {s s' : Sys} {x : Handle} (hI : Coherent s)
    (hx : (∃ h : Hid, s.handles h = some x) ∨ ∃ host : Host, x = newHandle host s.disk) (ha : Acted s x s') :
    Coherent s' := by
  obtain ⟨x1, x2, x3⟩ : Fits s.disk x := by
    rcases hx with ⟨h, hx⟩ | ⟨host, rfl⟩
    · exact hI.fits hx
    · exact hI.fits_new host
  obtain ⟨o, m, ⟨_, _, hcfg, hjs⟩, hk, hd, hh⟩ := ha
  have hj : s'.disk.js.version = s'.disk.jsVer := by
    rw [hd]
    rcases hjs with ⟨a1, a2, _⟩ | ⟨_, _, _, a3, _, a5⟩
    · exact (congrArg _ a1).trans (hI.agreeJs.trans a2.symm)
    · exact a5.trans a3.symm
  rcases hcfg with ⟨a1, a2, a3, a4, a5⟩ | ⟨_, a2, a3, a4, a5, a6⟩
  · -- the config pair is untouched: the outcome's handle fits it as `x` did, whichever way it keeps the submitter
    refine hI.update o.2.1 hh (by rw [hd]; exact (congrArg _ a1).trans (hI.agreeCfg.trans a2.symm)) hj
      (by rw [hd]; exact a3.trans hI.present) (.inl (by rw [hd]; exact ⟨a1, a2⟩)) ?_
    rw [hd]
    refine ⟨a4 ▸ a2 ▸ x1, fun hv => ?_, a5 ▸ x3⟩
    obtain ⟨c1, c2⟩ := x2 (a4.symm.trans (hv.trans a2))
    refine ⟨?_, fun c hc => a1 ▸ c2 c (a5 ▸ hc)⟩
    rcases hk with hk | hk | hk
    · exact hk.trans (c1.trans (congrArg _ a1.symm))
    · exact absurd hv hk
    · exact congrArg _ ((c2 _ (a5 ▸ hk)).trans a1.symm)
  · refine hI.update o.2.1 hh (by rw [hd]; exact (congrArg _ a3).trans (a5.trans a2.symm)) hj (by rw [hd]; exact a4)
      (.inr (by rw [hd]; exact a2 ▸ Nat.lt_succ_self _)) ?_
    rw [hd]
    exact ⟨Nat.le_of_eq (a5.trans a2.symm), fun _ => ⟨congrArg _ a3.symm, fun c hc => by rw [a6] at hc; cases hc; exact a3.symm⟩,
      by rw [a6]; exact fun j e => nomatch e⟩

/-- every API operation preserves `Coherent` — no protocol assumed -/
theorem Coherent.step {s : Sys} (hI : Coherent s) (op : Op) (hnt : op.isTamper = false) : Coherent (step s op).1 := by
  rcases step_stepped s op hnt with ⟨m, h⟩ | ⟨x, hx, _, ha⟩
  · rw [h]; exact hI.marker m
  · exact hI.acted hx ha

theorem Coherent.create (host : Host) (spec : List (List JobId × Bool)) (brk : Bool) :
    Coherent (create host spec brk) := by
  rw [create_eq]
  refine .of_fits rfl rfl rfl fun q z hz => ?_
  simp only at hz
  split at hz <;> cases hz
  exact ⟨Nat.le_refl _, fun _ => ⟨rfl, fun c hc => by cases hc; rfl⟩, fun j e => nomatch e⟩

theorem Coherent.exec (ops : List Op) (s : Sys) (hI : Coherent s) (hnt : ∀ op ∈ ops, op.isTamper = false) :
    Coherent (exec s ops) :=
  List.foldlRecOn ops _ hI fun _ hI op hop => hI.step op (hnt op hop)

theorem promotion_refused_of_coherent {s : Sys} (hC : Coherent s) (h : Hid) (hheld : s.disk.cfg.submitter ≠ none) :
    (step s (.promote h)).2 ≠ .bool true ∧ (step s (.promote h)).1.disk.files = s.disk.files ∧
    (∀ x : Handle, s.handles h = some x → s.disk.marker = false →
      (x.cfg.submitter ≠ none ∧ (step s (.promote h)).2 = .bool false) ∨
      (x.cfg.submitter = none ∧ x.cfg.version ≠ s.disk.cfgVer ∧ (step s (.promote h)).2 = .err .versionMismatch)) := by
  simp only [step]
  rcases locked_cases s h doPromote with ⟨h1, h2⟩ | ⟨x, h1, hm, h2⟩ | ⟨x, hx, hm, h2⟩ <;> rw [h2]
  · exact ⟨by simp, rfl, fun x hx => by rw [h1] at hx; cases hx⟩
  · exact ⟨by simp, rfl, fun _ _ hm' => by rw [hm] at hm'; cases hm'⟩
  · -- a current copy names the submitter the disk names, so only a refusal or a stale copy remain
    rcases doPromote_cases s.disk x with ⟨c1, c2⟩ | ⟨c1, c2, c3⟩ | ⟨c1, c2, _⟩ | ⟨c1, c2, _⟩
    · rw [c2]
      exact ⟨by simp, rfl, fun z hz _ => by rw [hx] at hz; cases hz; exact .inl ⟨c1, rfl⟩⟩
    · rw [c3]
      exact ⟨by simp, rfl, fun z hz _ => by rw [hx] at hz; cases hz; exact .inr ⟨c1, c2, rfl⟩⟩
    all_goals exact absurd (hC.cur h x hx c2 ▸ c1) hheld

theorem demote_only_from_submitter_host_of_coherent {s : Sys} (hC : Coherent s) (h : Hid)
    (hok : (step s (.demote h)).2 = .ok) :
    ∃ x : Handle, s.handles h = some x ∧ s.disk.cfg.submitter = some x.host := by
  simp only [step] at hok
  rcases locked_cases s h doDemote with ⟨_, h2⟩ | ⟨_, _, _, h2⟩ | ⟨x, hx, _, h2⟩ <;> rw [h2] at hok
  · cases hok
  · cases hok
  · refine ⟨x, hx, ?_⟩
    rcases doDemote_cases s.disk x with ⟨_, c2⟩ | ⟨_, _, c3⟩ | ⟨c1, c2, _⟩ | ⟨c1, c2, _⟩
    · rw [c2] at hok; cases hok
    · rw [c3] at hok; cases hok
    all_goals exact hC.cur h x hx c2 ▸ c1

/-! ### what one operation can do to the two (data file, version file) pairs -/

/-- untouched, or rewritten with the next version -/
def DiskStep (d d' : Disk) : Prop :=
  ((d'.cfg = d.cfg ∧ d'.cfgVer = d.cfgVer ∧ d'.cfgMissing = d.cfgMissing) ∨
   (d'.cfgVer = d.cfgVer + 1 ∧ d'.cfg.version = d.cfgVer + 1 ∧ d'.cfgMissing = false)) ∧
  ((d'.js = d.js ∧ d'.jsVer = d.jsVer) ∨ (d'.jsVer = d.jsVer + 1 ∧ d'.js.version = d.jsVer + 1))

theorem DiskStep.marker (d : Disk) (m : Bool) : DiskStep d { d with marker := m } :=
  ⟨Or.inl ⟨rfl, rfl, rfl⟩, Or.inl ⟨rfl, rfl⟩⟩

theorem Eff.diskStep {d : Disk} {x : Handle} {o : Out} (he : Eff d x o) (m : Bool) :
    DiskStep d { o.1 with marker := m } := by
  obtain ⟨_, _, hc, hj⟩ := he
  constructor
  · rcases hc with ⟨a1, a2, a3, _, _⟩ | ⟨_, a2, a3, a4, a5, _⟩
    · exact Or.inl ⟨a1, a2, a3⟩
    · exact Or.inr ⟨a2, by show o.1.cfg.version = _; rw [a3, a5], a4⟩
  · rcases hj with ⟨a1, a2, _⟩ | ⟨_, _, _, a3, _, a5⟩
    · exact Or.inl ⟨a1, a2⟩
    · exact Or.inr ⟨a3, a5⟩

/-- every operation of the API (not the tampering ones) leaves each pair untouched or rewrites it with the next version -/
theorem step_diskStep (s : Sys) (op : Op) (hnt : op.isTamper = false) : DiskStep s.disk (step s op).1.disk := by
  rcases step_stepped s op hnt with ⟨m, h⟩ | ⟨x, _, _, o, m, he, _, hd, _⟩
  · rw [h]; exact .marker _ m
  · rw [hd]; exact he.diskStep m

theorem DiskStep.le {d d' : Disk} (h : DiskStep d d') : d.cfgVer ≤ d'.cfgVer ∧ d.jsVer ≤ d'.jsVer := by
  obtain ⟨hc, hj⟩ := h
  rcases hc with ⟨_, a, _⟩ | ⟨a, _⟩ <;> rcases hj with ⟨_, b⟩ | ⟨b, _⟩ <;> omega

theorem exec_versions_mono (ops : List Op) (s : Sys) (hnt : ∀ op ∈ ops, op.isTamper = false) :
    s.disk.cfgVer ≤ (exec s ops).disk.cfgVer ∧ s.disk.jsVer ≤ (exec s ops).disk.jsVer :=
  List.foldlRecOn ops _ (motive := fun s' => s.disk.cfgVer ≤ s'.disk.cfgVer ∧ s.disk.jsVer ≤ s'.disk.jsVer)
    ⟨Nat.le_refl _, Nat.le_refl _⟩ fun s' h op hop =>
      have h1 := (step_diskStep s' op (hnt op hop)).le
      ⟨Nat.le_trans h.1 h1.1, Nat.le_trans h.2 h1.2⟩

end Jade.Cluster
