import JadeModel.Proofs.SystemBase


/-! Cancel is final (C14); completion happens once, after the summary, and ends submission (C05 safety). Definitions. -/

namespace Jade.Sys

/-- the phases of a round in which the process may still collect, submit or summarize -/
def inRound : SPc → Bool
  | .loaded => true
  | .collecting => true
  | .ready => true
  | .marked => true
  | .persisted => true
  | .summarized => true
  | _ => false

structure GateInv (s : Sys) : Prop where
  role : RoleInv s
  /-- the holder's copy of the two flags is the disk's -/
  flags : ∀ q a y, s.procs q = .sub a y → holds y.pc = true →
    y.loc.complete = s.disk.complete ∧ y.loc.canceled = s.disk.canceled
  /-- a holder that saw the submission complete never enters a round -/
  completeOut : ∀ q a y, s.procs q = .sub a y → holds y.pc = true → y.loc.complete = true →
    (y.pc = .summarized → False) ∧ inRound y.pc = false ∧ (y.pc = .unmarked → y.decided = false)
  /-- cancel-jobs never submits or summarizes -/
  cancelOut : ∀ q a y, s.procs q = .sub a y → y.isCancel = true →
    y.pc ≠ .marked ∧ y.pc ≠ .collecting ∧ y.pc ≠ .ready ∧ y.pc ≠ .persisted ∧ y.pc ≠ .summarized ∧
    (y.pc = .unmarked → y.decided = false)
  late : s.lateSbatch = false
  once : s.completions = (if s.disk.complete then 1 else 0)

theorem gateInv_init (sc : Scn) : GateInv (init sc) := by
  refine ⟨roleInv_init sc, ?_, ?_, ?_, ?_, ?_⟩ <;> simp [init]

#realize_aux Jade

end Jade.Sys
