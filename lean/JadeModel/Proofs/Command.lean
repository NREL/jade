import JadeModel.Model.Command

/-! Helper lemmas for C19 (the `shlex` state machine, `dirname`, the generated tables). -/

namespace Jade.Command
open Jade.Gen.Command

/-! ### vocabulary of the statements -/

/-- neither whitespace, nor a quote, nor the escape character -/
def isPlain (c : Char) : Bool := !(isShWs c || isQuote c || isEscape c)

/-- a non-empty text without whitespace, quotes and backslashes -/
def safeWord (t : List Char) : Bool := !t.isEmpty && t.all isPlain

/-- words joined by single spaces -/
def joinSp : List (List Char) → List Char
  | [] => []
  | [w] => w
  | w :: ws => w ++ ' ' :: joinSp ws

/-! ### running the machine -/

theorem run_nil (s : Lex) : s.run [] = s := rfl

theorem run_cons (s : Lex) (c : Char) (cs : List Char) : s.run (c :: cs) = (s.step c).run cs := rfl

theorem run_append (s : Lex) (a b : List Char) : s.run (a ++ b) = (s.run a).run b := by
  simp [Lex.run, List.foldl_append]

theorem isPlain_iff (c : Char) :
    isPlain c = true ↔ isShWs c = false ∧ isQuote c = false ∧ isEscape c = false := by
  simp [isPlain, and_assoc]

/-- between tokens or inside an unquoted word -/
def Lex.Open (s : Lex) : Prop := s.mode = .space ∨ s.mode = .word

theorem step_ws (s : Lex) (c : Char) (hm : s.Open) (hc : isShWs c = true) :
    s.step c = { s.flush with mode := .space } := by
  rcases hm with h | h <;> simp [Lex.step, h, Lex.stepSpace, Lex.stepWord, hc]

theorem step_plain_space (s : Lex) (c : Char) (hm : s.mode = .space) (hc : isPlain c = true) :
    s.step c = { s with token := [c], mode := .word } := by
  obtain ⟨h1, h2, h3⟩ := (isPlain_iff c).1 hc
  simp [Lex.step, hm, Lex.stepSpace, h1, h2, h3]

theorem step_plain_word (s : Lex) (c : Char) (hm : s.mode = .word) (hc : isPlain c = true) :
    s.step c = { s with token := s.token ++ [c] } := by
  obtain ⟨h1, h2, h3⟩ := (isPlain_iff c).1 hc
  simp [Lex.step, hm, Lex.stepWord, h1, h2, h3]

theorem step_open (s : Lex) (c : Char) (hm : s.Open) (hc : isQuote c = false ∧ isEscape c = false) :
    (s.step c).Open := by
  rcases hm with hm | hm <;>
    simp only [Lex.Open, Lex.step, hm, Lex.stepSpace, Lex.stepWord, hc.1, hc.2] <;> split <;> simp

/-- plain characters extend the current word -/
theorem run_plain_word (t : List Char) (s : Lex) (hm : s.mode = .word)
    (ht : ∀ c ∈ t, isPlain c = true) : s.run t = { s with token := s.token ++ t } := by
  induction t generalizing s with
  | nil => simp [run_nil]
  | cons c cs ih =>
    rw [List.forall_mem_cons] at ht
    rw [run_cons, step_plain_word s c hm ht.1, ih { s with token := s.token ++ [c] } hm ht.2]
    simp

/-- a safe word read between tokens becomes the current word -/
theorem run_safe_space (t : List Char) (s : Lex) (hm : s.mode = .space) (ht : safeWord t = true) :
    s.run t = { s with token := t, mode := .word } := by
  cases t with
  | nil => simp [safeWord] at ht
  | cons c cs =>
    simp only [safeWord, Bool.and_eq_true, List.all_eq_true, List.forall_mem_cons] at ht
    rw [run_cons, step_plain_space s c hm ht.2.1, run_plain_word cs _ rfl ht.2.2]
    rfl

theorem finish_ok_iff (s : Lex) (ws : List (List Char)) :
    s.finish = .ok ws ↔ s.Open ∧ ws = s.flush.out := by
  unfold Lex.finish Lex.Open
  split <;> simp_all [eq_comm]

theorem finish_error (s : Lex) (e : Err) (h : s.finish = .error e) : e = .valueError := by
  unfold Lex.finish at h
  split at h <;> cases h <;> rfl

/-! ### tokens already emitted do not influence the rest of the run -/

/-- the same lexer with `o` put in front of the emitted tokens -/
def Lex.addOut (o : List (List Char)) (s : Lex) : Lex := { s with out := o ++ s.out }

theorem step_addOut (o : List (List Char)) (s : Lex) (c : Char) :
    (s.addOut o).step c = (s.step c).addOut o := by
  obtain ⟨m, t, q, out⟩ := s
  cases m <;>
    simp only [Lex.step, Lex.addOut, Lex.stepSpace, Lex.stepWord, Lex.stepQuote, Lex.stepEscape,
      Lex.flush] <;>
    repeat' split
  all_goals simp_all

theorem run_addOut (o : List (List Char)) (cs : List Char) (s : Lex) :
    (s.addOut o).run cs = (s.run cs).addOut o := by
  induction cs generalizing s with
  | nil => rfl
  | cons c cs ih => rw [run_cons, run_cons, step_addOut, ih]

theorem finish_addOut (o : List (List Char)) (s : Lex) :
    (s.addOut o).finish = s.finish.map (o ++ ·) := by
  obtain ⟨m, t, q, out⟩ := s
  cases m <;> simp [Lex.finish, Lex.addOut, Lex.flush, Except.map]
  all_goals split <;> simp_all

/-- after a complete command and one whitespace character the lexer is between tokens, holding
    exactly the command's words -/
theorem run_then_ws (a : List Char) (xs : List (List Char)) (c : Char) (h : shSplit a = .ok xs)
    (hc : isShWs c = true) : (Lex.init.run a).step c = Lex.init.addOut xs := by
  obtain ⟨hm, hx⟩ := (finish_ok_iff _ _).1 h
  rw [step_ws _ _ hm hc, hx]
  simp [Lex.addOut, Lex.init, Lex.flush]

/-! ### leading / trailing whitespace -/

theorem run_ws_init (pad : List Char) (h : ∀ c ∈ pad, isShWs c = true) : Lex.init.run pad = Lex.init :=
  List.foldlRecOn (motive := (· = Lex.init)) pad Lex.step rfl
    fun _ hs c hc => by rw [hs, step_ws _ _ (.inl rfl) (h c hc)]; rfl

theorem finish_run_ws (pad : List Char) (s : Lex) (hm : s.Open) (h : ∀ c ∈ pad, isShWs c = true) :
    (s.run pad).finish = s.finish :=
  (List.foldlRecOn (motive := fun t => t.Open ∧ t.finish = s.finish) pad Lex.step ⟨hm, rfl⟩
    fun t ht c hc => by
      rw [step_ws _ _ ht.1 (h c hc), ← ht.2]
      rcases ht.1 with h | h <;> simp [Lex.Open, Lex.finish, Lex.flush, h]).2

/-! ### quoting -/

theorem step_quote_open (s : Lex) (q : Char) (hm : s.Open) (hq : isQuote q = true) :
    s.step q = { s with mode := .quote q } := by
  have : isShWs q = false ∧ isEscape q = false := by
    simp only [isQuote, Bool.or_eq_true, beq_iff_eq] at hq
    rcases hq with rfl | rfl <;> decide
  rcases hm with h | h <;> simp [Lex.step, h, Lex.stepSpace, Lex.stepWord, this, hq]

theorem step_quote_literal (s : Lex) (q c : Char) (hm : s.mode = .quote q) (hc : c ≠ q)
    (he : (isEscape c && isEscapedQuote q) = false) :
    s.step c = { s with quoted := true, token := s.token ++ [c] } := by
  simp [Lex.step, hm, Lex.stepQuote, hc, he]

theorem run_quote_body (q : Char) (w : List Char) (s : Lex) (hm : s.mode = .quote q)
    (hw : ∀ c ∈ w, c ≠ q ∧ (isEscape c && isEscapedQuote q) = false) :
    s.run (w ++ [q]) = { s with token := s.token ++ w, quoted := true, mode := .word } := by
  induction w generalizing s with
  | nil => simp [Lex.run, Lex.step, hm, Lex.stepQuote]
  | cons c cs ih =>
    rw [List.forall_mem_cons] at hw
    rw [List.cons_append, run_cons, step_quote_literal s q c hm hw.1.1 hw.1.2,
      ih { s with quoted := true, token := s.token ++ [c] } hm hw.2]
    simp

/-- the universal quoting function (what `shlex.quote` does for a word that needs quoting):
    wrap in single quotes, write each single quote as `'"'"'` -/
def shQuoteBody : List Char → List Char
  | [] => []
  | c :: cs => (if c = '\'' then ['\'', '"', '\'', '"', '\''] else [c]) ++ shQuoteBody cs

def shQuote (w : List Char) : List Char := '\'' :: shQuoteBody w ++ ['\'']

theorem run_shQuote_body (w : List Char) (s : Lex) (hm : s.mode = .quote '\'') :
    s.run (shQuoteBody w ++ ['\'']) = { s with token := s.token ++ w, quoted := true, mode := .word } := by
  induction w generalizing s with
  | nil => simp [shQuoteBody, Lex.run, Lex.step, hm, Lex.stepQuote]
  | cons c cs ih =>
    by_cases hc : c = '\''
    · subst hc
      have h5 : s.run ['\'', '"', '\'', '"', '\''] =
          { s with quoted := true, token := s.token ++ ['\''], mode := .quote '\'' } := by
        simp [Lex.run, Lex.step, hm, Lex.stepQuote, Lex.stepWord, isShWs, isQuote, isEscape]
      simp only [shQuoteBody, if_true, List.append_assoc]
      rw [run_append, h5, ih _ rfl]
      simp
    · simp only [shQuoteBody, if_neg hc, List.cons_append, List.nil_append]
      rw [run_cons, step_quote_literal s _ c hm hc (by simp [isEscapedQuote]),
        ih { s with quoted := true, token := s.token ++ [c] } hm]
      simp

theorem shSplit_quoted (q : Char) (hq : isQuote q = true) (body w : List Char)
    (h : ∀ s : Lex, s.mode = .quote q →
      s.run (body ++ [q]) = { s with token := s.token ++ w, quoted := true, mode := .word }) :
    shSplit (q :: body ++ [q]) = .ok [w] := by
  rw [shSplit, List.cons_append, run_cons, step_quote_open _ q (.inl rfl) hq, h _ rfl]
  simp [Lex.finish, Lex.flush, Lex.init]

/-! ### safe words, stdio paths -/

theorem safeWord_append (a b : List Char) (ha : safeWord a = true) (hb : ∀ c ∈ b, isPlain c = true) :
    safeWord (a ++ b) = true := by
  simp only [safeWord, Bool.and_eq_true, List.all_eq_true, List.mem_append] at ha ⊢
  refine ⟨?_, fun c hc => hc.elim (ha.2 c) (hb c)⟩
  cases a <;> simp_all

theorem stdio_path (out name ext : String) :
    pathStr [out, "job-stdio", name ++ ext] = out ++ "/job-stdio/" ++ name ++ ext := by
  apply String.toList_injective
  have : "/job-stdio/".toList = "/".toList ++ ("job-stdio".toList ++ "/".toList) := by decide
  simp only [pathStr, String.toList_append, this, List.append_assoc]

theorem applySuffix_eq (j : Job) (output cmd : String) (g : String × List Piece) :
    applySuffix j output cmd g =
      cmd ++ if guardVal j g.1 then renderPieces (genEnv j output) g.2 else "" := by
  unfold applySuffix
  split <;> simp

/-! ### `dirname(join(out, name))` -/

/-- a directory text that does not end in a slash -/
def noTrailingSlash (out : List Char) : Bool := !out.isEmpty && out.getLast? != some '/'

theorem dirname_join (out name : List Char) (ho : noTrailingSlash out = true)
    (hn : ∀ c ∈ name, c ≠ '/') : dirname (pathJoin out name) = out := by
  -- `out` reversed starts with a character that is not a slash
  obtain ⟨l, r, hr, hl⟩ : ∃ l r, out.reverse = l :: r ∧ l ≠ '/' := by
    cases h : out.reverse with
    | nil => simp_all [noTrailingSlash]
    | cons l r => exact ⟨l, r, rfl, by simp_all [noTrailingSlash, List.getLast?_eq_head?_reverse]⟩
  have hne : out ≠ [] := fun h => by simp [h] at hr
  have ho' : r.reverse ++ [l] = out := by rw [← List.reverse_cons, ← hr, List.reverse_reverse]
  have hj : pathJoin out name = out ++ '/' :: name := by
    cases name <;> simp_all [pathJoin, noTrailingSlash]
  have hup : uptoLastSlash (out ++ '/' :: name) = out ++ ['/'] := by
    rw [uptoLastSlash, List.reverse_append, List.reverse_cons, List.append_assoc,
      List.dropWhile_append_of_pos (by simpa using hn)]
    simp
  rw [hj, dirname, hup]
  simp [rstripSlash, hr, hl, hne, ho', show ∃ x ∈ out, ¬x = '/' from ⟨l, by simp [← ho'], hl⟩]

end Jade.Command
