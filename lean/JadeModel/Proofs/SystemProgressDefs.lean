import JadeModel.Proofs.SystemRowsDefs


/-! Progress of submitter rounds (C05): definitions. -/

namespace Jade.Sys

/-- bookkeeping facts that hold in every reachable state -/
structure ProgA (s : Sys) : Prop where
  /-- an id on disk / in a holder's queue was returned by sbatch -/
  diskIds : ∀ h ∈ s.disk.ids, s.slurm h ≠ none
  outIds : ∀ q a y, s.procs q = .sub a y → ∀ h ∈ y.out, s.slurm h ≠ none
  /-- a batch is never empty and contains configured jobs only -/
  batchJobs : ∀ B ∈ s.batches, B.jobs ≠ [] ∧ ∀ j ∈ B.jobs, j < s.sc.n
  /-- after `update_job_status` the copy's active ids are the queue's -/
  persistedIds : ∀ q a y, s.procs q = .sub a y → y.pc = .persisted → y.loc.ids = y.out

theorem progA_init (sc : Scn) : ProgA (init sc) := by
  refine ⟨?_, ?_, ?_, ?_⟩ <;> simp [init]

/-- the pcs between the scheduler poll and the removal of the marker -/
def polled : SPc → Bool
  | .collecting => true
  | .ready => true
  | .marked => true
  | .persisted => true
  | _ => false

/-- relative to a reference moment: `D h` = batch `h` had ended then, `N h` = id `h` did not exist then -/
structure ProgQ (D N : Hid → Prop) (s : Sys) : Prop where
  dead : ∀ h, D h → s.slurm h = some .ended
  fresh : ∀ h, s.slurm h = none → N h
  diskOld : ∀ h ∈ s.disk.ids, D h ∨ N h
  outOld : ∀ q a y, s.procs q = .sub a y → holds y.pc = true → ∀ h ∈ y.out, D h ∨ N h
  /-- after its poll a round never believes a batch active that had ended at the reference moment -/
  outLive : ∀ q a y, s.procs q = .sub a y → polled y.pc = true → ∀ h ∈ y.out, ¬ D h

#realize_aux Jade

end Jade.Sys
