import JadeModel.Proofs.SystemNode
import JadeModel.Proofs.SystemCapDefs
import JadeModel.Proofs.System

/-! C06 at system level: `CapInv` is preserved by every accepted event, hence along every run. -/

namespace Jade.Sys

/-- the hids of the active batches: distinct, all tracked -/
theorem activeCount_le_out {s : Sys} (hi : CapInv s) (l : List Hid) (hl : ∀ k, activeB s k = true → k ∈ l) :
    activeCount s ≤ l.length := by
  have hu := hi.node.hidUnique
  have hbn : s.batches.Nodup :=
    List.Pairwise.of_map (·.bid) (fun a b hab heq => hab (heq ▸ rfl)) hi.node.batch.idsNodup
  have hnd : ((s.batches.filter (batchActive s)).map (·.hid)).Nodup :=
    List.pairwise_map.2 <| (List.Nodup.sublist List.filter_sublist hbn).imp_of_mem fun {b b'} hb hb' hne e => by
      simp only [List.mem_filter, batchActive] at hb hb'
      grind
  have := List.Nodup.length_le_of_subset hnd (l₂ := l.map some) fun o ho => by
    simp only [List.mem_map, List.mem_filter, batchActive] at ho ⊢
    grind
  simpa [activeCount] using this

theorem activeCount_mono {s s' : Sys} (hb : s'.batches = s.batches) (ha : ∀ k, activeB s' k = true → activeB s k = true) :
    activeCount s' ≤ activeCount s := by
  unfold activeCount
  rw [hb]
  apply filter_length_mono
  intro b _ hact
  unfold batchActive at *
  split at hact
  · next k hk => exact ha k hact
  · cases hact

/-- `sbatch`: the process holding the marker tracks every active batch, is below the cap, and adds one batch -/
theorem cap_sbatch {s : Sys} {p : Pid} {x : SubP} (hi : CapInv s) (hp : s.procs p = .sub true x) (hpc : x.pc = .marked)
    (hlt : x.out.length < s.sc.maxNodes) (B : Batch) (sl : Hid → Option BSt)
    (hsl : ∀ b ∈ s.batches, batchActiveF sl b = true → batchActiveF s.slurm b = true) :
    ((s.batches ++ [B]).filter (batchActiveF sl)).length ≤ s.sc.maxNodes := by
  have hr := hi.node.batch.role
  have hh : holds x.pc = true := by rw [hpc]; rfl
  have hhs := holderSub_eq hr hp hh
  have hown : owns true x = true := by simp [owns, hr.marked p true x hp (Or.inl hpc), hpc]
  have hno : ¬ Orphan s := fun ho => by
    have := ho.2 p true x hp; rw [hown] at this; cases this
  have hle : activeCount s ≤ x.out.length := by
    apply activeCount_le_out hi
    intro k hk
    rcases hi.tracked k hk with ht | ho
    · simpa [trackedIds, hhs] using ht
    · exact absurd ho hno
  simp only [activeCount, batchActive_eq] at hle
  have hold := filter_length_mono s.batches _ _ hsl
  have hnew := List.length_filter_le (batchActiveF sl) [B]
  simp only [List.filter_append, List.length_append, List.length_cons, List.length_nil] at hnew ⊢
  omega

/-- membership in `trackedIds` without the nested matches, given that `submitter` names a submitter process -/
theorem mem_trackedIds {s : Sys} (hE : ∀ q, s.submitter = some q → ∃ a y, s.procs q = .sub a y ∧ holds y.pc = true)
    (h : Hid) : h ∈ trackedIds s ↔
      (∀ q a y, s.submitter = some q → s.procs q = .sub a y → h ∈ y.out) ∧ (s.submitter = none → h ∈ s.disk.ids) := by
  unfold trackedIds holderSub
  cases hs : s.submitter with
  | none => simp
  | some q =>
    obtain ⟨a, y, hq, -⟩ := hE q hs
    simp only [hq]
    grind

theorem holderExists_step {s s' : Sys} {op : Op} (hi : CapInv s) (h : Step s op s') :
    ∀ q, s'.submitter = some q → ∃ a y, s'.procs q = .sub a y ∧ holds y.pc = true := by
  induction h <;> frame_goal <;> grind [→ hi.holderExists, holds, SubP.load]

theorem capInv_step {s s' : Sys} {op : Op} (hi : CapInv s) (h : Step s op s') : CapInv s' where
  node := nodeInv_step hi.node h
  tracked := by
    have hO : Orphan s → Orphan s' := fun ho => orphan_step ho h
    have r := hi.node.batch.role
    have t1 := hi.tracked
    simp only [mem_trackedIds hi.holderExists, mem_trackedIds (holderExists_step hi h), activeB] at t1 ⊢
    induction h <;> frame_goal
    case poll hp hg =>
      simp only [activeB] at hg
      grind
    -- the one event after which nobody may own the marker: the holder leaves with its marker in place
    case demote hp hg hs =>
      have h2 := r.markerOf; have h4 := r.pendMarker _ _ _ hp; have t2 := hi.outSub _ _ _ hp
      simp only [Orphan] at t1 ⊢
      frame_goal
      grind [→ r.holder, holds, owns]
    all_goals intro k hk; (try replace t1 := t1 k hk); grind [→ r.holder, → hi.holderExists, holds, SubP.load, persistStatus]
  outSub := by
    induction h <;> intro q a y hq <;> frame_simp at hq
    case persist | persistCfg | persistJobs =>
      proc_cases at hq from hi.outSub <;> grind [→ hi.node.batch.role.holder, holds, persistStatus]
    all_goals proc_cases at hq from hi.outSub <;> grind [holds, SubP.load, List.append_eq_nil_iff]
  holderExists := holderExists_step hi h
  cap := by
    have hc := hi.cap
    induction h
    case sbatch hp hg hf =>
      rw [activeCount, batchActive_eq]
      frame_goal
      refine cap_sbatch hi hp hg.1 hg.2.2.2.2.1 _ _ fun b hb => ?_
      have := hi.node.hidKnown b hb
      grind [batchActiveF]
    case sbatchFailed hp hg =>
      rw [activeCount, batchActive_eq]
      frame_goal
      exact cap_sbatch hi hp hg.1 hg.2.2.2.2.1 _ _ fun _ _ => id
    all_goals first | exact hc | exact Nat.le_trans (activeCount_mono (s := s) rfl (by simp only [activeB, setSub_fields, setNode_fields, setProc_fields]; grind)) hc

theorem capInv_run {s s' : Sys} (ops : List Op) (hi : CapInv s) (h : run s ops = some s') : CapInv s' :=
  run_inv capInv_step ops hi h

end Jade.Sys
