import JadeModel.Model.Pipeline

/-!
Helper lemmas for C15.

Part 1 characterises the generated predicates and proves that the interpreter of the generated statement programs
equals a closed form — the only place where the generated text is unfolded.  A call has two halves: the stage test
with the recording of the report (nothing of it on the first call), and then, with the resulting config `c` in memory,
the completion of the pipeline or the submission of the current stage (`finish c`).  Part 2 lifts this to the CLI
commands and proves the inductive invariant `Good`: a command either is refused and changes nothing, or passes the
test (`Accepts`) and leaves `finish (target s op)` behind.
-/

namespace Jade.Pipeline
open Jade.Gen.Pipeline

/-! ## Part 1: generated predicates and the closed form of one call -/

theorem pyIndex_natCast (i len : Nat) : pyIndex (i : Int) len = if i < len then some i else none := by
  unfold pyIndex
  by_cases h : i < len <;> simp [h]

theorem rcIndex_accept (s : Nat) (h : 1 ≤ s) : rcIndex ((s : Int) + 1) = ((s - 1 : Nat) : Int) := by
  unfold rcIndex; omega

theorem stageIndex_eq (s : Nat) (h : 1 ≤ s) : stageIndex s = ((s - 1 : Nat) : Int) := by
  unfold stageIndex; omega

theorem rejectStage_iff (k : Int) (s : Nat) : rejectStage k s = true ↔ k ≠ ((s + 1 : Nat) : Int) := by
  simp [rejectStage]

theorem rejectStage_self (s : Nat) : rejectStage ((s : Int) + 1) s = false := by
  simp [rejectStage]

theorem pipelineDone_iff (s n : Nat) : pipelineDone s n = true ↔ s = n + 1 := by
  simp [pipelineDone]

theorem retFails_iff (r : Int) : retFails r = true ↔ r ≠ 0 := by
  simp [retFails]

theorem isFirstCall_iff (rc : Option Int) : isFirstCall rc = true ↔ rc = none := by
  cases rc <;> simp [isFirstCall]

theorem firstStageOk_cli : firstStageOk cliFirstStage = true := by decide

/-- the persisted config after an accepted report of the current stage's return code -/
def advance (c : Config) (rc : Int) : Config :=
  { c with stageNum := c.stageNum + 1, returnCodes := c.returnCodes.set (c.stageNum - 1) (some rc) }

/-- the hand-over of the current stage of `c` to `run_submit_jobs`, with `c` on disk -/
def handoverOf (c : Config) : Handover :=
  { stage := c.stageNum, cfgStage := c.stageNum, outStage := c.stageNum, disk := c }

/-- the second half of a call, `c` being the config in memory: past the last stage the pipeline is marked complete;
    otherwise `c` is written, the current stage configured and handed over -/
def finish (c : Config) (out : Outcome) : Config × Option Handover × Res :=
  if c.stageNum = c.returnCodes.length + 1 then ({ c with isComplete := true }, none, .ok)
  else if out.cfgOk = false then (c, none, .execError)
  else (c, some (handoverOf c), if out.ret ≠ 0 then .execError else .ok)

/-- projection of an activation to what is observable afterwards -/
def Frame.view (f : Frame) : Config × Option Handover × Res := (f.disk, f.handover, f.err.getD .ok)

section

-- the interpreter and the straight-line programs it runs, for evaluation by `simp`
attribute [local simp] submitNextStage execAll exec Frame.fail Frame.view isFirstCall_iff firstBody acceptBody
  completeBody submitBody pipelineDone_iff retFails_iff Config.numStages pyIndex_natCast

theorem finish_spec (a : Args) (m d : Config) (h1 : 1 ≤ m.stageNum) (hle : m.stageNum ≤ m.returnCodes.length + 1) :
    (if pipelineDone m.stageNum m.numStages then execAll a completeBody { mem := m, disk := d }
      else execAll a submitBody { mem := m, disk := d }).view = finish m a.out := by
  by_cases hdone : m.stageNum = m.returnCodes.length + 1
  · simp [finish, hdone]
  · have hlt : m.stageNum - 1 < m.returnCodes.length := by omega
    have hsub : m.stageNum - 1 + 1 = m.stageNum := by omega
    cases hcfg : a.out.cfgOk <;> by_cases hret : a.out.ret = 0 <;>
      simp [finish, handoverOf, hdone, stageIndex_eq _ h1, hlt, hsub, hcfg, hret, outputStageArg,
        submitStageArg]

theorem submitNextStage_of_first_half (a : Args) (c : Config) (f1 : Frame)
    (h : (if isFirstCall a.rc then execAll a firstBody { mem := c, disk := c }
      else execAll a acceptBody { mem := c, disk := c }) = f1) (he : f1.err = none) :
    submitNextStage a c = if pipelineDone f1.mem.stageNum f1.mem.numStages then execAll a completeBody f1
      else execAll a submitBody f1 := by
  subst h
  simp only [submitNextStage, he, Option.isSome_none, Bool.false_eq_true, if_false]

/-- the first call (`jade pipeline submit`, no return code) -/
theorem start_spec (c : Config) (out : Outcome) (h1 : 1 ≤ c.stageNum) (hle : c.stageNum ≤ c.returnCodes.length + 1) :
    (submitNextStage { k := cliFirstStage, rc := none, out := out } c).view = finish c out := by
  rw [submitNextStage_of_first_half _ c { mem := c, disk := c } (by simp [firstStageOk_cli]) rfl]
  exact finish_spec _ c c h1 hle

/-- closed form of `submit-next-stage k rc`: a wrong stage number is refused, the report of a stage past the last one
    dies on `stages[stage_num - 2]`, otherwise the report is recorded and the call goes on with the next stage -/
def specNext (c : Config) (k rc : Int) (out : Outcome) : Config × Option Handover × Res :=
  if k = ((c.stageNum + 1 : Nat) : Int) then
    if c.stageNum ≤ c.returnCodes.length then finish (advance c rc) out else (c, none, .indexError)
  else (c, none, .invalidParam)

theorem next_spec (c : Config) (k rc : Int) (out : Outcome) (h1 : 1 ≤ c.stageNum)
    (hle : c.stageNum ≤ c.returnCodes.length + 1) :
    (submitNextStage { k := k, rc := some rc, out := out } c).view = specNext c k rc out := by
  unfold specNext
  split
  · next hk =>
    subst hk
    split
    · have hlt : c.stageNum - 1 < c.returnCodes.length := by omega
      rw [submitNextStage_of_first_half _ c { mem := advance c rc, disk := c }
        (by simp [rejectStage_self, rcIndex_accept _ h1, hlt, stageInc, advance]) rfl]
      exact finish_spec _ _ c (by simp [advance]) (by simp [advance]; omega)
    · have : ¬ c.stageNum - 1 < c.returnCodes.length := by omega
      simp [rejectStage_self, rcIndex_accept _ h1, this]
  · next hk => simp [(rejectStage_iff _ _).2 hk]

end

/-! ## Part 2: one CLI command in closed form, the invariant -/

theorem view_disk (f : Frame) : f.disk = f.view.1 := rfl
theorem view_handover (f : Frame) : f.handover = f.view.2.1 := rfl
theorem view_res (f : Frame) : f.err.getD .ok = f.view.2.2 := rfl

/-- the directory after a call that leaves `v`: the new `pipeline.json`, the hand-over (if any), the result -/
def land (s : State) (v : Config × Option Handover × Res) : State × Res :=
  ({ s with cfg := v.1, handovers := s.handovers ++ v.2.1.toList }, v.2.2)

theorem applyCall_eq (s : State) (a : Args) : applyCall s a = land s (submitNextStage a s.cfg).view := rfl

theorem land_none (s : State) (r : Res) : land s (s.cfg, none, r) = (s, r) := by
  simp [land]

theorem step_next_fresh (s : State) (k rc : Int) (out : Outcome) (hc : s.created = false) :
    step s (.next k rc out) = (s, .noPipeline) := by
  simp [step, hc]

theorem step_start_created (s : State) (out : Outcome) (hc : s.created = true) :
    step s (.start out) = (s, .dirExists) := by
  simp [step, hc]

theorem step_start (s : State) (out : Outcome) (hc : s.created = false) (h1 : 1 ≤ s.cfg.stageNum)
    (hle : s.cfg.stageNum ≤ s.cfg.returnCodes.length + 1) :
    step s (.start out) = land { s with created := true } (finish s.cfg out) := by
  simp only [step, hc, Bool.false_eq_true, if_false, Op.args, applyCall_eq, start_spec s.cfg out h1 hle]

theorem step_next (s : State) (k rc : Int) (out : Outcome) (hc : s.created = true) (h1 : 1 ≤ s.cfg.stageNum)
    (hle : s.cfg.stageNum ≤ s.cfg.returnCodes.length + 1) :
    step s (.next k rc out) = land s (specNext s.cfg k rc out) := by
  simp only [step, hc, if_true, Op.args, applyCall_eq, next_spec s.cfg k rc out h1 hle]

@[simp] theorem land_fst (s : State) (v : Config × Option Handover × Res) :
    (land s v).1 = { s with cfg := v.1, handovers := s.handovers ++ v.2.1.toList } := rfl
@[simp] theorem land_snd (s : State) (v : Config × Option Handover × Res) : (land s v).2 = v.2.2 := rfl

@[simp] theorem finish_stageNum (c : Config) (out : Outcome) : (finish c out).1.stageNum = c.stageNum := by
  unfold finish; (repeat' split) <;> rfl

@[simp] theorem finish_returnCodes (c : Config) (out : Outcome) : (finish c out).1.returnCodes = c.returnCodes := by
  unfold finish; (repeat' split) <;> rfl

@[simp] theorem accepted_ite (r : Int) : (if r ≠ 0 then Res.execError else Res.ok).accepted = true := by
  split <;> rfl

@[simp] theorem finish_accepted (c : Config) (out : Outcome) : (finish c out).2.2.accepted = true := by
  unfold finish; (repeat' split) <;> rfl

theorem finish_handover (c : Config) (out : Outcome) :
    (finish c out).2.1 =
      if c.stageNum ≠ c.returnCodes.length + 1 ∧ out.cfgOk = true then some (handoverOf (finish c out).1) else none := by
  unfold finish; (repeat' split) <;> simp_all

/-- the inductive invariant of the pipeline directory (`n` = number of stages) -/
structure Good (n : Nat) (s : State) : Prop where
  len : s.cfg.returnCodes.length = n
  pos : 1 ≤ s.cfg.stageNum
  le : s.cfg.stageNum ≤ n + 1
  complete_iff : s.cfg.isComplete = true ↔ (s.created = true ∧ s.cfg.stageNum = n + 1)
  fresh : s.created = false → s.cfg.stageNum = 1 ∧ s.handovers = []
  recorded : ∀ i : Nat, i + 1 < s.cfg.stageNum → ∃ r : Int, s.cfg.returnCodes[i]? = some (some r)
  pending : ∀ i : Nat, s.cfg.stageNum ≤ i + 1 → i < n → s.cfg.returnCodes[i]? = some none
  sub : (s.handovers.map (·.stage)).Sublist (List.range' 1 (min s.cfg.stageNum n))
  hand : ∀ h ∈ s.handovers, h.cfgStage = h.stage ∧ h.outStage = h.stage ∧ h.disk.stageNum = h.stage ∧ 1 ≤ h.stage

theorem good_init (n : Nat) : Good n (init n) := by
  refine ⟨by simp [init], by simp [init], by simp [init], by simp [init], by simp [init], ?_, ?_, by simp [init], by simp [init]⟩
  · intro i hi; simp [init] at hi
  · intro i _ hi; simp [init, hi]

theorem good_settle {n : Nat} {s : State} (hg : Good n s) (c : Config) (out : Outcome)
    (hlen : c.returnCodes.length = n) (hpos : 1 ≤ c.stageNum) (hle : c.stageNum ≤ n + 1) (hic : c.isComplete = false)
    (hrec : ∀ i : Nat, i + 1 < c.stageNum → ∃ r : Int, c.returnCodes[i]? = some (some r))
    (hpend : ∀ i : Nat, c.stageNum ≤ i + 1 → i < n → c.returnCodes[i]? = some none)
    (hsub : (s.handovers.map (·.stage)).Sublist (List.range' 1 (c.stageNum - 1))) :
    Good n (land { s with created := true } (finish c out)).1 := by
  unfold finish land
  split
  · refine ⟨hlen, hpos, hle, by simp; omega, by simp, hrec, hpend, ?_, by simpa using hg.hand⟩
    have : min c.stageNum n = c.stageNum - 1 := by omega
    simpa [this] using hsub
  · have hmin : min c.stageNum n = c.stageNum - 1 + 1 := by omega
    split
    · refine ⟨hlen, hpos, hle, by simp [hic]; omega, by simp, hrec, hpend, ?_, by simpa using hg.hand⟩
      simpa [hmin, List.range'_concat] using hsub.trans (List.sublist_append_left _ _)
    · refine ⟨hlen, hpos, hle, by simp [hic]; omega, by simp, hrec, hpend, ?_, ?_⟩
      · simp only [hmin, List.range'_concat, List.map_append]
        refine hsub.append ?_
        simp [handoverOf]; omega
      · simpa [handoverOf, or_imp, forall_and, hpos] using hg.hand

theorem Good.not_complete {n : Nat} {s : State} (hg : Good n s) (h : s.created = false ∨ s.cfg.stageNum ≤ n) :
    s.cfg.isComplete = false := by
  cases hic : s.cfg.isComplete with
  | false => rfl
  | true =>
    obtain ⟨hc, hs⟩ := hg.complete_iff.1 hic
    rcases h with h | h
    · rw [hc] at h; cases h
    · omega

theorem Good.created_of_lt {n : Nat} {s : State} (hg : Good n s) (h : 1 < s.cfg.stageNum) : s.created = true := by
  cases hc : s.created with
  | true => rfl
  | false => have := (hg.fresh hc).1; omega

theorem Good.complete_iff_stageNum {n : Nat} {s : State} (hg : Good n s) (hn : 1 ≤ n) :
    s.cfg.isComplete = true ↔ s.cfg.stageNum = n + 1 :=
  hg.complete_iff.trans ⟨fun h => h.2, fun h => ⟨hg.created_of_lt (by omega), h⟩⟩

/-! ### `advance` -/

@[simp] theorem advance_len (c : Config) (rc : Int) : (advance c rc).returnCodes.length = c.returnCodes.length := by
  simp [advance]
@[simp] theorem advance_stageNum (c : Config) (rc : Int) : (advance c rc).stageNum = c.stageNum + 1 := rfl
@[simp] theorem advance_isComplete (c : Config) (rc : Int) : (advance c rc).isComplete = c.isComplete := rfl

theorem advance_get_self (c : Config) (rc : Int) (hlt : c.stageNum - 1 < c.returnCodes.length) :
    (advance c rc).returnCodes[c.stageNum - 1]? = some (some rc) := by
  simp [advance, hlt]

theorem advance_get_ne (c : Config) (rc : Int) (i : Nat) (h : i ≠ c.stageNum - 1) :
    (advance c rc).returnCodes[i]? = c.returnCodes[i]? := by
  simp [advance, Ne.symm h]

/-- the calls that pass the acceptance test of an `n`-stage pipeline in state `s` -/
def Accepts (n : Nat) (s : State) : Op → Prop
  | .start _ => s.created = false
  | .next k _ _ => s.created = true ∧ k = ((s.cfg.stageNum + 1 : Nat) : Int) ∧ s.cfg.stageNum ≤ n

/-- the config such a call has in memory when it turns to the current stage -/
def target (s : State) : Op → Config
  | .start _ => s.cfg
  | .next _ rc _ => advance s.cfg rc

theorem step_of_accepts {n : Nat} {s : State} (hg : Good n s) {op : Op} (ha : Accepts n s op) :
    step s op = land { s with created := true } (finish (target s op) op.args.out) := by
  have hlen := hg.len
  have hle := hg.le
  cases op with
  | start out => exact step_start s out ha hg.pos (by omega)
  | next k rc out =>
    obtain ⟨hc, rfl, hn⟩ := ha
    have hs : { s with created := true } = s := by rw [← hc]
    rw [hs, step_next s _ rc out hc hg.pos (by omega), specNext, if_pos rfl, if_pos (by omega)]
    rfl

theorem step_of_not_accepts {n : Nat} {s : State} (hg : Good n s) {op : Op} (ha : ¬ Accepts n s op) :
    (step s op).1 = s ∧ (step s op).2.accepted = false := by
  have hlen := hg.len
  cases op with
  | start out => rw [step_start_created s out (by simpa [Accepts] using ha)]; exact ⟨rfl, rfl⟩
  | next k rc out =>
    by_cases hc : s.created = true
    · rw [step_next s k rc out hc hg.pos (by have := hg.le; omega), specNext]
      split
      · next hk => rw [if_neg (fun h => ha ⟨hc, hk, by omega⟩), land_none]; exact ⟨rfl, rfl⟩
      · rw [land_none]; exact ⟨rfl, rfl⟩
    · rw [step_next_fresh s k rc out (by simpa using hc)]; exact ⟨rfl, rfl⟩

theorem accepted_iff {n : Nat} {s : State} (hg : Good n s) (op : Op) :
    (step s op).2.accepted = true ↔ Accepts n s op := by
  by_cases ha : Accepts n s op
  · simp [step_of_accepts hg ha, ha]
  · simp [(step_of_not_accepts hg ha).2, ha]

theorem good_step {n : Nat} {s : State} (hg : Good n s) (op : Op) : Good n (step s op).1 := by
  have hlen := hg.len
  have hpos := hg.pos
  by_cases ha : Accepts n s op
  · rw [step_of_accepts hg ha]
    cases op with
    | start out =>
      exact good_settle hg s.cfg out hlen hpos hg.le (hg.not_complete (Or.inl ha)) hg.recorded hg.pending
        (by simp [(hg.fresh ha).2])
    | next k rc out =>
      obtain ⟨hc, -, hn⟩ := ha
      refine good_settle hg (advance s.cfg rc) out (by simpa using hlen) (by simp) (by simpa using hn)
        (hg.not_complete (Or.inr hn)) ?_ ?_ ?_
      · intro i hi
        by_cases hii : i = s.cfg.stageNum - 1
        · subst hii; exact ⟨rc, advance_get_self _ _ (by omega)⟩
        · rw [advance_get_ne _ _ _ hii]; exact hg.recorded i (by simp at hi; omega)
      · intro i hi hin
        simp only [advance_stageNum] at hi
        rw [advance_get_ne _ _ _ (by omega)]; exact hg.pending i (by omega) hin
      · have : min s.cfg.stageNum n = s.cfg.stageNum := by omega
        simpa [this] using hg.sub
  · rw [(step_of_not_accepts hg ha).1]; exact hg

theorem good_run {n : Nat} {s : State} (hg : Good n s) (ops : List Op) : Good n (run s ops) :=
  List.foldlRecOn (motive := Good n) ops _ hg fun _ hg op _ => good_step hg op

theorem run_cons (s : State) (op : Op) (ops : List Op) : run s (op :: ops) = run (step s op).1 ops := rfl
theorem run_nil (s : State) : run s [] = s := rfl
theorem run_append (s : State) (a b : List Op) : run s (a ++ b) = run (run s a) b := by
  simp [run, List.foldl_append]

/-! ## Part 3: consequences used by the property theorems -/

/-- a call that is not accepted changes nothing -/
theorem rejected_unchanged {n : Nat} {s : State} (hg : Good n s) (op : Op)
    (h : (step s op).2.accepted = false) : (step s op).1 = s := by
  by_cases ha : Accepts n s op
  · rw [(accepted_iff hg op).2 ha] at h; cases h
  · exact (step_of_not_accepts hg ha).1

/-- an accepted `submit-next-stage` call carries the next stage number and moves the current stage by one -/
theorem next_accepted {n : Nat} {s : State} (hg : Good n s) (k rc : Int) (out : Outcome)
    (h : (step s (.next k rc out)).2.accepted = true) :
    s.created = true ∧ k = ((s.cfg.stageNum + 1 : Nat) : Int) ∧ s.cfg.stageNum ≤ n ∧
      (step s (.next k rc out)).1.cfg.stageNum = s.cfg.stageNum + 1 ∧
      (step s (.next k rc out)).1.cfg.returnCodes[s.cfg.stageNum - 1]? = some (some rc) := by
  have ha := (accepted_iff hg _).1 h
  have hlen := hg.len
  have hpos := hg.pos
  rw [step_of_accepts hg ha]
  exact ⟨ha.1, ha.2.1, ha.2.2, by simp [target], by simpa [target] using advance_get_self _ _ (by have := ha.2.2; omega)⟩

/-- `jade pipeline submit` never moves the current stage -/
theorem start_stageNum {n : Nat} {s : State} (hg : Good n s) (out : Outcome) :
    (step s (.start out)).1.cfg.stageNum = s.cfg.stageNum ∧
    (step s (.start out)).1.cfg.returnCodes = s.cfg.returnCodes := by
  by_cases ha : Accepts n s (.start out)
  · simp [step_of_accepts hg ha, target]
  · rw [(step_of_not_accepts hg ha).1]; exact ⟨rfl, rfl⟩

/-- the current stage never decreases, and what has been recorded stays -/
theorem step_mono {n : Nat} {s : State} (hg : Good n s) (op : Op) :
    s.cfg.stageNum ≤ (step s op).1.cfg.stageNum ∧
    ∀ i : Nat, i + 1 < s.cfg.stageNum → (step s op).1.cfg.returnCodes[i]? = s.cfg.returnCodes[i]? := by
  cases op with
  | start out =>
    obtain ⟨h1, h2⟩ := start_stageNum hg out
    exact ⟨by omega, fun i _ => by rw [h2]⟩
  | next k rc out =>
    by_cases ha : Accepts n s (.next k rc out)
    · rw [step_of_accepts hg ha]
      exact ⟨by simp [target], fun i hi => by simpa [target] using advance_get_ne _ _ _ (by omega)⟩
    · rw [(step_of_not_accepts hg ha).1]; exact ⟨Nat.le_refl _, fun _ _ => rfl⟩

theorem run_mono {n : Nat} {s : State} (hg : Good n s) (ops : List Op) :
    s.cfg.stageNum ≤ (run s ops).cfg.stageNum ∧
    ∀ i : Nat, i + 1 < s.cfg.stageNum → (run s ops).cfg.returnCodes[i]? = s.cfg.returnCodes[i]? := by
  induction ops generalizing s with
  | nil => exact ⟨Nat.le_refl _, fun _ _ => rfl⟩
  | cons op ops ih =>
    obtain ⟨h1, h2⟩ := step_mono hg op
    obtain ⟨h3, h4⟩ := ih (good_step hg op)
    rw [run_cons]
    exact ⟨by omega, fun i hi => by rw [h4 i (by omega), h2 i hi]⟩

/-- the accepted calls from a good state are `stageNum+1, stageNum+2, …`; the current stage counts them -/
theorem accepted_spec {n : Nat} {s : State} (hg : Good n s) (ops : List Op) :
    acceptedStages s ops = (List.range' (s.cfg.stageNum + 1) (acceptedStages s ops).length).map Int.ofNat ∧
    (run s ops).cfg.stageNum = s.cfg.stageNum + (acceptedStages s ops).length := by
  induction ops generalizing s with
  | nil => simp [acceptedStages, run_nil]
  | cons op ops ih =>
    obtain ⟨h1, h2⟩ := ih (good_step hg op)
    rw [run_cons]
    cases op with
    | start out =>
      rw [(start_stageNum hg out).1] at h1 h2
      exact ⟨h1, h2⟩
    | next k rc out =>
      simp only [acceptedStages]
      split
      · next ha =>
        obtain ⟨_, hk, _, hs, _⟩ := next_accepted hg k rc out ha
        rw [hs] at h1 h2
        refine ⟨?_, by simp; omega⟩
        simp only [List.length_cons, List.range'_succ, List.map_cons, ← h1]
        simp [hk]
      · next ha =>
        rw [rejected_unchanged hg _ (by simpa using ha)] at h1 h2 ⊢
        exact ⟨h1, h2⟩

theorem mem_acceptedStages {n : Nat} {s : State} (hg : Good n s) (ops : List Op) (j : Nat) :
    ((j : Nat) : Int) ∈ acceptedStages s ops ↔ s.cfg.stageNum < j ∧ j ≤ (run s ops).cfg.stageNum := by
  obtain ⟨h1, h2⟩ := accepted_spec hg ops
  rw [h1, h2]
  simp [List.mem_range'_1, Int.ofNat_eq_natCast, Int.natCast_inj]
  omega

/-- once complete, every further command is refused and nothing changes -/
theorem complete_frozen {n : Nat} {s : State} (hg : Good n s) (hcomp : s.cfg.isComplete = true) (op : Op) :
    (step s op).1 = s ∧
    (step s op).2 = (match op with
      | .start _ => .dirExists
      | .next k _ _ => if k = ((n + 2 : Nat) : Int) then .indexError else .invalidParam) := by
  obtain ⟨hc, hs⟩ := hg.complete_iff.mp hcomp
  have hlen := hg.len
  cases op with
  | start out => rw [step_start_created s out hc]; exact ⟨rfl, rfl⟩
  | next k rc out =>
    rw [step_next s k rc out hc hg.pos (by omega), specNext, hs, if_neg (by omega : ¬ n + 1 ≤ s.cfg.returnCodes.length)]
    dsimp only
    split <;> exact ⟨by rw [land_none], rfl⟩

theorem run_complete {n : Nat} {s : State} (hg : Good n s) (hcomp : s.cfg.isComplete = true) (ops : List Op) :
    run s ops = s := by
  induction ops with
  | nil => rfl
  | cons op ops ih => rw [run_cons, (complete_frozen hg hcomp op).1, ih]

/-- what one command does to the list of hand-overs -/
theorem step_handover {n : Nat} {s : State} (hg : Good n s) (op : Op) :
    (step s op).1.handovers = s.handovers ∨
    ((step s op).1.handovers = s.handovers ++ [handoverOf (step s op).1.cfg] ∧
      (step s op).1.cfg.isComplete = false ∧ (step s op).1.cfg.stageNum ≤ n ∧ op.args.out.cfgOk = true) := by
  by_cases ha : Accepts n s op
  · have hg' := good_step hg op
    rw [step_of_accepts hg ha] at hg' ⊢
    have hlen : (target s op).returnCodes.length = n := by simpa using hg'.len
    have hle : (target s op).stageNum ≤ n + 1 := by simpa using hg'.le
    simp only [land_fst, finish_handover]
    split
    · next h => exact Or.inr ⟨rfl, hg'.not_complete (Or.inr (by simp; omega)), by simp; omega, h.2⟩
    · exact Or.inl (by simp)
  · rw [(step_of_not_accepts hg ha).1]; exact Or.inl rfl

/-- without configuration failures every stage reached has been handed over -/
def Exact (n : Nat) (s : State) : Prop :=
  s.created = true → s.handovers.length = min s.cfg.stageNum n

theorem exact_step {n : Nat} {s : State} (hg : Good n s) (hx : Exact n s) (op : Op)
    (hop : op.args.out.cfgOk = true) : Exact n (step s op).1 := by
  by_cases ha : Accepts n s op
  · have hpre : s.handovers.length = (target s op).stageNum - 1 := by
      cases op with
      | start out => simp [target, hg.fresh ha]
      | next k rc out => have := hx ha.1; have := ha.2.2; simp [target]; omega
    have hg' := good_step hg op
    rw [step_of_accepts hg ha] at hg' ⊢
    have hlen : (target s op).returnCodes.length = n := by simpa using hg'.len
    have hpos : 1 ≤ (target s op).stageNum := by simpa using hg'.pos
    have hle : (target s op).stageNum ≤ n + 1 := by simpa using hg'.le
    intro _
    simp only [land_fst, finish_handover, finish_stageNum, hop, and_true]
    split <;> simp <;> omega
  · rw [(step_of_not_accepts hg ha).1]; exact hx

theorem exact_run {n : Nat} {s : State} (hg : Good n s) (hx : Exact n s) (ops : List Op)
    (hops : ∀ op ∈ ops, op.args.out.cfgOk = true) : Exact n (run s ops) :=
  (List.foldlRecOn (motive := fun s => Good n s ∧ Exact n s) ops _ ⟨hg, hx⟩ fun _ h op hop =>
    ⟨good_step h.1 op, exact_step h.1 h.2 op (hops op hop)⟩).2

theorem Exact.submitted {n : Nat} {s : State} (hg : Good n s) (hx : Exact n s) (hc : s.created = true) :
    s.handovers.map (·.stage) = List.range' 1 (min s.cfg.stageNum n) :=
  hg.sub.eq_of_length (by simp [hx hc])

/-! ## Part 4: the undisturbed run -/

/-- the reports of consecutive stages, in order, starting with stage number `a`, in a benign environment -/
def reports (a : Nat) : List Int → List Op
  | [] => []
  | r :: rs => .next ((a : Nat) : Int) r Outcome.good :: reports (a + 1) rs

theorem reports_cfgOk (a : Nat) (rs : List Int) : ∀ op ∈ reports a rs, op.args.out.cfgOk = true := by
  induction rs generalizing a with
  | nil => intro op h; cases h
  | cons r rs ih =>
    intro op h
    rcases List.mem_cons.1 h with rfl | h
    · rfl
    · exact ih _ op h

theorem run_reports {n : Nat} {s : State} (hg : Good n s) (hc : s.created = true) (rs : List Int)
    (hle : s.cfg.stageNum + rs.length ≤ n + 1) :
    (run s (reports (s.cfg.stageNum + 1) rs)).cfg.stageNum = s.cfg.stageNum + rs.length ∧
    (run s (reports (s.cfg.stageNum + 1) rs)).created = true ∧
    ∀ (i : Nat) (h : i < rs.length),
      (run s (reports (s.cfg.stageNum + 1) rs)).cfg.returnCodes[s.cfg.stageNum - 1 + i]? = some (some rs[i]) := by
  induction rs generalizing s with
  | nil => exact ⟨rfl, hc, fun _ h => absurd h (Nat.not_lt_zero _)⟩
  | cons r rs ih =>
    simp only [List.length_cons] at hle
    have hpos := hg.pos
    have hacc := (accepted_iff hg (.next ((s.cfg.stageNum + 1 : Nat) : Int) r Outcome.good)).2 ⟨hc, rfl, by omega⟩
    obtain ⟨_, _, _, hs, hr⟩ := next_accepted hg _ r Outcome.good hacc
    have hg' := good_step hg (.next ((s.cfg.stageNum + 1 : Nat) : Int) r Outcome.good)
    obtain ⟨h1, h2, h3⟩ := ih hg' (hg'.created_of_lt (by omega)) (by omega)
    rw [hs] at h1 h2 h3
    refine ⟨by rw [reports, run_cons, h1, List.length_cons]; omega, h2, fun i hi => ?_⟩
    rw [reports, run_cons]
    cases i with
    | zero => exact ((run_mono hg' _).2 _ (by omega)).trans hr
    | succ i =>
      have := h3 i (by simpa using hi)
      have hidx : s.cfg.stageNum + 1 - 1 + i = s.cfg.stageNum - 1 + (i + 1) := by omega
      rw [hidx] at this
      simpa using this
end Jade.Pipeline
