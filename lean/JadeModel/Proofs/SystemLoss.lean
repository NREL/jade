import JadeModel.Proofs.SystemOutcome
import JadeModel.Proofs.SystemRows

/-! Lost batches (C12): nothing is fabricated, nothing that waits for a job without outcome is started. -/

namespace Jade.Sys

/-- a job enters the started list only through an accepted `nodeStart` -/
theorem starts_step {s s' : Sys} {op : Op} (h : Step s op s') (j : JobId)
    (hj : j ∈ s'.starts.map (·.1)) : j ∈ s.starts.map (·.1) ∨ ∃ p, op = .nodeStart p j := by
  induction h with
  | @nodeStart p =>
    frame_simp at hj
    simp only [List.map_append, List.mem_append, List.map_cons, List.map_nil, List.mem_singleton] at hj
    exact hj.imp_right fun e => ⟨p, by rw [e]⟩
  | _ => exact Or.inl hj

/-- every started job had — and keeps — a recorded outcome for each of its configured blockers -/
def StartedOK (s : Sys) : Prop := ∀ j ∈ s.starts.map (·.1), ∀ b ∈ s.sc.blockers j, HasRow s b

theorem startedOK_step {s s' : Sys} {op : Op} (hb : BlockInv s) (hi : StartedOK s) (h : Step s op s') :
    StartedOK s' := by
  intro j hj b hbl
  rw [sc_step h] at hbl
  rcases starts_step h j hj with hold | ⟨p, rfl⟩
  · exact hasRow_step h b (hi j hold b hbl)
  · exact hasRow_step h b (start_has_rows hb p j h b hbl)

theorem startedOK_reach (sc : Scn) (ops : List Op) (s : Sys) (h : run (init sc) ops = some s) : StartedOK s :=
  (run_inv (P := fun t => BlockInv t ∧ StartedOK t)
    (fun hp h => ⟨blockInv_step hp.1 h, startedOK_step hp.1 hp.2 h⟩) ops
    ⟨blockInv_init sc, by intro j hj; simp [init] at hj⟩ h).2

/-- a set of jobs that can never get going: every member has a blocker in the set (a dependency cycle,
    or anything closed under "waits for a member") and no member carries the cancel flag -/
structure Stuck (sc : Scn) (S : JobId → Prop) : Prop where
  waits : ∀ j, S j → ∃ b ∈ sc.blockers j, S b
  unflagged : ∀ j, S j → sc.flag j = false

/-- "no member is started or has a row" -/
def NoneYet (S : JobId → Prop) (s : Sys) : Prop := ∀ j, S j → j ∉ s.starts.map (·.1) ∧ ¬ HasRow s j

theorem stuck_step {sc : Scn} {S : JobId → Prop} (hS : Stuck sc S) {s s' : Sys} {op : Op}
    (hb : BlockInv s) (hB' : OutcomeB s') (hsc : s.sc = sc) (hi : NoneYet S s) (h : Step s op s') :
    NoneYet S s' := by
  have hsc' : s'.sc = sc := by rw [sc_step h]; exact hsc
  have hns : ∀ j, S j → j ∉ s'.starts.map (·.1) := by
    intro j hj hin
    rcases starts_step h j hin with hold | ⟨p, rfl⟩
    · exact (hi j hj).1 hold
    · obtain ⟨b, hbl, hSb⟩ := hS.waits j hj
      exact (hi b hSb).2 (start_has_rows hb p j h b (by rw [hsc]; exact hbl))
  intro j hj
  refine ⟨hns j hj, fun hrow => ?_⟩
  obtain ⟨r, hr, rfl⟩ := hasRow_iff.1 hrow
  cases hc : r.canceled with
  | true =>
    have := (hB'.lc2 r hr hc).1
    rw [hsc', hS.unflagged r.job hj] at this; cases this
  | false => exact hns r.job hj (hB'.lc1 r hr hc).2

/-- no member of a stuck set is ever started or given a row -/
theorem stuck_never (sc : Scn) (S : JobId → Prop) (hS : Stuck sc S) (ops : List Op) (s : Sys)
    (h : run (init sc) ops = some s) : NoneYet S s := by
  have hinit : NoneYet S (init sc) := by
    intro j _
    refine ⟨by simp [init], ?_⟩
    rintro (⟨r, hr, -⟩ | ⟨b, r, hr, -⟩) <;> simp [init] at hr
  refine (run_inv (P := fun t => BlockInv t ∧ OutcomeA t ∧ OutcomeB t ∧ t.sc = sc ∧ NoneYet S t)
    ?_ ops ⟨blockInv_init sc, outcomeA_init sc, outcomeB_init sc, rfl, hinit⟩ h).2.2.2.2
  rintro s0 s1 op ⟨hb, hA, hB, hsc, hi⟩ hs
  have hB1 := outcomeB_step hA hB hs
  exact ⟨blockInv_step hb hs, outcomeA_step hA hs, hB1, (sc_step hs).trans hsc,
    stuck_step hS hb hB1 hsc hi hs⟩

end Jade.Sys
