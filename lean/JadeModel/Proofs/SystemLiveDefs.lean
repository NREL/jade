import JadeModel.Proofs.SystemBase
import JadeModel.Proofs.SystemProgressDefs
import JadeModel.Proofs.SystemOutcomeDefs
import JadeModel.Proofs.SystemCapDefs
import JadeModel.Proofs.SystemGateDefs

/-! Fault-free executions (`Jade.Sys.stepP` / `runP`): the guards of `SystemPlain` in plain language, the
accepted fault-free events as a relation (`StepP`), and the invariants of fault-free executions
(`Live0` … `Live5`, `LiveF`; preserved in `SystemLive`). -/

namespace Jade.Sys

/-- every batch the round does not believe active has an empty result file -/
def CollectedAll (s : Sys) (x : SubP) : Prop :=
  ∀ B ∈ s.batches, ∀ h : Hid, B.hid = some h → h ∈ x.out ∨ s.nodeFile B.bid = []

/-- every unblocked NOT_SUBMITTED job was handed over in this round, or the node limit is reached -/
def RoundDone (sc : Scn) (x : SubP) : Prop :=
  sc.maxNodes ≤ x.out.length ∨
    ∀ j : JobId, j < sc.n → x.loc.st j = .ns → x.loc.blk j = [] → j ∈ x.pend

theorem collectedAll_iff (s : Sys) (x : SubP) : collectedAll s x = true ↔ CollectedAll s x := by
  simp only [collectedAll, CollectedAll, List.all_eq_true]
  refine forall₂_congr fun B _ => ?_
  cases B.hid <;> simp

theorem roundDone_iff (sc : Scn) (x : SubP) : roundDone sc x = true ↔ RoundDone sc x := by
  simp only [roundDone, RoundDone, Bool.or_eq_true, decide_eq_true_eq, List.all_eq_true, List.mem_range]
  refine or_congr_right (forall₂_congr fun j _ => ?_)
  cases x.loc.st j <;> simp [Decidable.imp_iff_not_or]

/-- what `stepP` adds to `step`, per operation -/
def PlainGuard (s : Sys) : Op → Prop
  | .collectCopy _ _ => False
  | .persistCfg _ => False
  | .persistJobs _ => False
  | .kill _ => False
  | .fail _ => False
  | .batchLost _ => False
  | .scancel _ _ => False
  | .markCanceled _ => False
  | .sbatch _ _ hid => ∃ h : Hid, hid = some h
  | .spawnSub _ c => c = false
  | .passEnd p _ => ∀ x : SubP, s.procs p = .sub true x → CollectedAll s x
  | .collectDone p => ∀ x : SubP, s.procs p = .sub true x → CollectedAll s x
  | .persist p => ∀ x : SubP, s.procs p = .sub true x → RoundDone s.sc x
  | .skipPersist p => ∀ x : SubP, s.procs p = .sub true x → RoundDone s.sc x
  | _ => True

theorem plainGuard_stepP {s s' : Sys} {op : Op} (h : stepP s op = some s') : PlainGuard s op := by
  have hg := stepP_guard h
  cases op <;> simp only [extraGuard, Op.faulty, Bool.and_eq_true, Bool.not_eq_true'] at hg <;>
    simp only [PlainGuard] <;> (try trivial) <;> (try (cases hg.1; done))
  case spawnSub p c => cases c <;> simp_all
  case sbatch p jobs hid => cases hid <;> simp_all
  all_goals
    intro x hx
    have := hg.2
    simp only [(getSub_iff s _ x).2 hx] at this
    first | exact (collectedAll_iff s x).1 this | exact (roundDone_iff s.sc x).1 this

/-- unfold one accepted fault-free step: `hs` is the `step` equation (split into its cases), `hg` the
    plain-language extra guard; faulty operations are discharged -/
macro "plain_cases" op:ident h:ident hs:ident hg:ident : tactic => `(tactic|
  (have $hs:ident := stepP_step $h:ident
   have $hg:ident := plainGuard_stepP $h:ident
   cases $op:ident <;> simp only [PlainGuard] at $hg:ident <;>
     (try (obtain ⟨_, rfl⟩ := $hg:ident)) <;> step_cases $hs:ident))

/-- like `plain_cases`, after `cases op` -/
macro "plain_split" h:ident hs:ident hg:ident : tactic => `(tactic|
  (have $hs:ident := stepP_step $h:ident
   have $hg:ident := plainGuard_stepP $h:ident
   simp only [PlainGuard] at $hg:ident <;> (try (obtain ⟨_, rfl⟩ := $hg:ident)) <;> step_cases $hs:ident))

/-- the accepted events of `stepP` (`PlainGuard` is `False` for a fault) -/
structure StepP (s : Sys) (op : Op) (s' : Sys) : Prop where
  step : Step s op s'
  guard : PlainGuard s op

/-- case analysis on a fault-free event `h : StepP s op s'`: one goal per constructor of `Step` that is no
    fault (the extra guard of a fault, and of an `sbatch` that failed, is false), with what the extra guard says of
    the event as a hypothesis -/
macro "plain_induction" h:ident : tactic => `(tactic|
  (obtain ⟨hs, hg⟩ := $h:ident
   induction hs <;> simp only [PlainGuard, reduceCtorEq, exists_false] at hg))

theorem stepP_sound {s s' : Sys} {op : Op} (h : stepP s op = some s') : StepP s op s' :=
  ⟨step_sound (stepP_step h), plainGuard_stepP h⟩

theorem runP_inv {P : Sys → Prop} (hstep : ∀ {s s' : Sys} {op : Op}, P s → StepP s op s' → P s')
    {s s' : Sys} (ops : List Op) (hi : P s) (h : runP s ops = some s') : P s' := by
  induction ops generalizing s with
  | nil => cases h; exact hi
  | cons op ops ih =>
    simp only [runP] at h
    split at h
    · next s1 hs => exact ih (hstep hi (stepP_sound hs)) h
    · cases h

/-- the phases after the collection loop -/
def afterCollect : SPc → Bool
  | .ready => true
  | .marked => true
  | .persisted => true
  | .unmarked => true
  | .summarized => true
  | .flagged => true
  | _ => false

/-- the phases after `update_job_status` -/
def afterPersist : SPc → Bool
  | .persisted => true
  | .unmarked => true
  | .summarized => true
  | .flagged => true
  | _ => false

/-- phase facts of fault-free rounds -/
structure Live0 (s : Sys) : Prop where
  /-- a marker always has a live owner that will remove it -/
  noOrphan : s.marker = true → ∃ q : Pid, ∃ y : SubP, s.procs q = .sub true y ∧ (y.pc = .marked ∨ y.pc = .persisted)
  /-- no cancel-jobs, no exception in flight, nobody dies while holding the role -/
  plain : ∀ q a y, s.procs q = .sub a y → y.isCancel = false ∧ y.pc ≠ .failing ∧ (a = true ∨ y.pc = .gone)
  atLoaded : ∀ q a y, s.procs q = .sub a y → y.pc = .loaded →
    y.pass = [] ∧ y.newly = [] ∧ y.toCancel = [] ∧ y.pend = []
  collected : ∀ q a y, s.procs q = .sub a y → afterCollect y.pc = true → y.pass = [] ∧ y.toCancel = []
  persisted : ∀ q a y, s.procs q = .sub a y → afterPersist y.pc = true → y.newly = [] ∧ y.pend = []
  noPend : ∀ q a y, s.procs q = .sub a y → (y.pc = .collecting ∨ y.pc = .ready) → y.pend = []

theorem live0_init (sc : Scn) : Live0 (init sc) := by
  refine ⟨?_, ?_, ?_, ?_, ?_, ?_⟩ <;> simp [init]

/-- some row of `l` is for job `j` -/
def HasJob (l : List Row) (j : JobId) : Prop := ∃ r ∈ l, r.job = j

@[grind =] theorem hasJob_nil (j : JobId) : HasJob [] j ↔ False := by simp [HasJob]

@[grind =] theorem hasJob_append (l m : List Row) (j : JobId) : HasJob (l ++ m) j ↔ (HasJob l j ∨ HasJob m j) := by
  simp only [HasJob, List.mem_append]
  constructor
  · rintro ⟨r, h | h, e⟩
    · exact Or.inl ⟨r, h, e⟩
    · exact Or.inr ⟨r, h, e⟩
  · rintro (⟨r, h, e⟩ | ⟨r, h, e⟩)
    · exact ⟨r, Or.inl h, e⟩
    · exact ⟨r, Or.inr h, e⟩

@[grind =] theorem hasJob_single (r : Row) (j : JobId) : HasJob [r] j ↔ r.job = j := by simp [HasJob]

@[grind =] theorem mem_jobs (l : List Row) (j : JobId) : j ∈ List.map (fun x => x.job) l ↔ HasJob l j := by
  simp [HasJob]

theorem hasJob_of_mem {l : List Row} {r : Row} (h : r ∈ l) : HasJob l r.job := ⟨r, h, rfl⟩

/-- rows behind DONE: whatever a round has seen is in the consolidated file -/
structure Live1 (s : Sys) : Prop where
  passProc : ∀ q a y, s.procs q = .sub a y → ∀ j : JobId, HasJob y.pass j → HasJob s.processed j
  newlyProc : ∀ q a y, s.procs q = .sub a y → ∀ j ∈ y.newly, HasJob s.processed j
  locDone : ∀ q a y, s.procs q = .sub a y → ∀ j : JobId, y.loc.st j = .done →
    HasJob s.processed j ∨ j ∈ y.toCancel
  diskDone : ∀ j : JobId, s.disk.st j = .done → HasJob s.processed j

theorem live1_init (sc : Scn) : Live1 (init sc) := by
  refine ⟨?_, ?_, ?_, ?_⟩ <;> simp [init]

/-- node accounting: every job of a started batch is queued, running, or has a row; a batch ends only
    when its queue is drained -/
structure Live2 (s : Sys) : Prop where
  nodeAcct : ∀ p a n, s.procs p = .node a n → ∀ B ∈ s.batches, B.hid = some n.hid → ∀ j ∈ B.jobs,
    j ∈ n.queued ∨ j ∈ n.running ∨ HasJob (s.nodeFile B.bid) j ∨ HasJob s.processed j
  endedRows : ∀ h : Hid, s.slurm h = some .ended → ∀ B ∈ s.batches, B.hid = some h → ∀ j ∈ B.jobs,
    HasJob (s.nodeFile B.bid) j ∨ HasJob s.processed j
  aliveRunning : ∀ p n, s.procs p = .node true n → s.slurm n.hid = some .running
  fileRows : ∀ b : Bid, ∀ j : JobId, HasJob (s.nodeFile b) j → ∃ B ∈ s.batches, B.bid = b ∧ j ∈ B.jobs

theorem live2_init (sc : Scn) : Live2 (init sc) := by
  refine ⟨?_, ?_, ?_, ?_⟩ <;> simp [init, HasJob]

/-- the holder's view of the consolidated file -/
structure Live3 (s : Sys) : Prop where
  /-- every collected row is accounted for in the holder's copy -/
  hProc : ∀ q a y, s.procs q = .sub a y → holds y.pc = true → ∀ j : JobId, HasJob s.processed j →
    y.loc.st j = .done ∨ HasJob y.pass j ∨ j ∈ y.newly
  /-- …and, between rounds, in the status file -/
  dProc : s.submitter = none → ∀ j : JobId, HasJob s.processed j → s.disk.st j = .done
  newlyNotNs : ∀ q a y, s.procs q = .sub a y → holds y.pc = true → ∀ j ∈ y.newly, y.loc.st j ≠ .ns
  passNotNs : ∀ q a y, s.procs q = .sub a y → holds y.pc = true → ∀ j : JobId, HasJob y.pass j → y.loc.st j ≠ .ns
  pendNs : ∀ q a y, s.procs q = .sub a y → holds y.pc = true → ∀ j ∈ y.pend, y.loc.st j = .ns
  toCancelDone : ∀ q a y, s.procs q = .sub a y → ∀ j ∈ y.toCancel, y.loc.st j = .done
  /-- DONE in the copy but not yet on disk only for this round's cancellations and collections -/
  syncDone : ∀ q a y, s.procs q = .sub a y → holds y.pc = true → ∀ j : JobId, y.loc.st j = .done →
    s.disk.st j = .done ∨ j ∈ y.toCancel ∨ HasJob y.pass j ∨ j ∈ y.newly

theorem live3_init (sc : Scn) : Live3 (init sc) := by
  refine ⟨?_, ?_, ?_, ?_, ?_, ?_, ?_⟩ <;> simp [init, HasJob]

structure Live4 (s : Sys) : Prop where
  diskSub : ∀ j : JobId, s.disk.st j = .sub →
    ∃ B ∈ s.batches, j ∈ B.jobs ∧ ∃ h : Hid, B.hid = some h ∧ h ∈ s.disk.ids
  hSub : ∀ q a y, s.procs q = .sub a y → holds y.pc = true → ∀ j : JobId, y.loc.st j = .sub →
    j ∈ y.newly ∨ HasJob y.pass j ∨
      ∃ B ∈ s.batches, j ∈ B.jobs ∧ ∃ h : Hid, B.hid = some h ∧ (h ∈ y.out ∨ HasJob (s.nodeFile B.bid) j)
  pendBatch : ∀ q a y, s.procs q = .sub a y → holds y.pc = true → ∀ j ∈ y.pend,
    ∃ B ∈ s.batches, j ∈ B.jobs ∧ ∃ h : Hid, B.hid = some h ∧ h ∈ y.out
  /-- after the collection loop: nothing uncollected outside the batches believed active -/
  quiet : ∀ q a y, s.procs q = .sub a y → (y.pc = .ready ∨ y.pc = .marked ∨ y.pc = .persisted) →
    ∀ B ∈ s.batches, ∀ h : Hid, B.hid = some h → h ∈ y.out ∨ s.nodeFile B.bid = []

theorem live4_init (sc : Scn) : Live4 (init sc) := by
  refine ⟨?_, ?_, ?_, ?_⟩ <;> simp [init, HasJob]

structure Live5 (s : Sys) : Prop where
  dBlk : ∀ j : JobId, s.disk.st j = .ns → ∀ b ∈ s.disk.blk j, s.disk.st b ≠ .done
  hBlk : ∀ q a y, s.procs q = .sub a y → holds y.pc = true → ∀ j : JobId, y.loc.st j = .ns →
    ∀ b ∈ y.loc.blk j, y.loc.st b ≠ .done ∨ b ∈ y.toCancel ∨ HasJob y.pass b
  nsBlocked : ∀ q a y, s.procs q = .sub a y → y.pc = .persisted → 1 ≤ s.sc.maxNodes → y.out = [] →
    ∀ j : JobId, j < s.sc.n → y.loc.st j = .ns → y.loc.blk j ≠ []

theorem live5_init (sc : Scn) : Live5 (init sc) := by
  refine ⟨?_, ?_, ?_⟩ <;> simp [init, HasJob]

/-- all invariants of fault-free executions -/
structure LiveAll (s : Sys) : Prop where
  cap : CapInv s
  prog : ProgA s
  outA : OutcomeA s
  gate : GateInv s
  l0 : Live0 s
  l1 : Live1 s
  l2 : Live2 s
  l3 : Live3 s
  l4 : Live4 s
  l5 : Live5 s

theorem liveAll_init (sc : Scn) : LiveAll (init sc) :=
  ⟨capInv_init sc, progA_init sc, outcomeA_init sc, gateInv_init sc, live0_init sc, live1_init sc, live2_init sc, live3_init sc,
    live4_init sc, live5_init sc⟩

/-- who decided "complete" — and the flag on disk — stand on a full consolidated file -/
structure LiveF (s : Sys) : Prop where
  decidedAll : ∀ q a y, s.procs q = .sub a y → ((y.pc = .unmarked ∧ y.decided = true) ∨ y.pc = .summarized) →
    ∀ j : JobId, j < s.sc.n → HasJob s.processed j
  completeAll : s.disk.complete = true → ∀ j : JobId, j < s.sc.n → HasJob s.processed j

theorem liveF_init (sc : Scn) : LiveF (init sc) := by
  refine ⟨?_, ?_⟩ <;> simp [init]

#realize_aux Jade

end Jade.Sys
