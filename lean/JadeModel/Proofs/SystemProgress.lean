import JadeModel.Proofs.SystemProgressDefs

/-! Progress of submitter rounds (C05): `ProgA` and `ProgQ` are preserved by every accepted event, hence along
    every run. -/

namespace Jade.Sys

theorem progA_step {s s' : Sys} {op : Op} (hi : ProgA s) (h : Step s op s') : ProgA s' where
  diskIds := by
    have a1 := hi.diskIds; have a2 := hi.outIds
    induction h <;> frame_goal <;> first | exact a1 | grind [persistStatus]
  outIds := by
    induction h <;> intro q a y hq <;> frame_simp at hq
    case scancel => grind [→ hi.outIds]
    case spawnSub | promote | promoteDone => have := hi.diskIds; proc_cases at hq from hi.outIds <;> grind [SubP.load]
    all_goals proc_cases at hq from hi.outIds <;> grind
  batchJobs := by
    have a3 := hi.batchJobs
    induction h <;> frame_goal <;> first | exact a3 | grind
  persistedIds := by
    induction h <;> intro q a y hq <;> frame_simp at hq
    all_goals proc_cases at hq from hi.persistedIds <;> grind [SubP.load, persistStatus]

theorem progQ_step {D N : Hid → Prop} {s s' : Sys} {op : Op} (hi : ProgQ D N s) (h : Step s op s') :
    ProgQ D N s' where
  dead := by
    have q1 := hi.dead
    induction h <;> frame_goal <;> first | exact q1 | grind
  fresh := by
    have q2 := hi.fresh
    induction h <;> frame_goal <;> first | exact q2 | grind
  diskOld := by
    have q3 := hi.diskOld
    induction h <;> frame_goal
    case persist hp hg | persistJobs hp hg => have := hi.outOld _ _ _ hp; grind [persistStatus, holds]
    all_goals first | exact q3 | grind
  outOld := by
    induction h <;> intro q a y hq <;> frame_simp at hq
    case spawnSub | promote | promoteDone => have := hi.diskOld; proc_cases at hq from hi.outOld <;> grind [SubP.load, holds]
    case sbatch => have := hi.fresh; proc_cases at hq from hi.outOld <;> grind [holds]
    all_goals proc_cases at hq from hi.outOld <;> grind [holds]
  outLive := by
    induction h <;> intro q a y hq <;> frame_simp at hq
    case poll hp hg => have := hi.dead; proc_cases at hq from hi.outLive <;> grind [polled, activeB]
    case sbatch => have := hi.dead; proc_cases at hq from hi.outLive <;> grind [polled]
    all_goals proc_cases at hq from hi.outLive <;> grind [SubP.load, polled]

theorem progA_run {s s' : Sys} (ops : List Op) (hi : ProgA s) (h : run s ops = some s') : ProgA s' :=
  run_inv progA_step ops hi h

theorem progQ_run {D N : Hid → Prop} {s s' : Sys} (ops : List Op) (hi : ProgQ D N s) (h : run s ops = some s') :
    ProgQ D N s' :=
  run_inv progQ_step ops hi h

end Jade.Sys
