import JadeModel.Model.Batch
import JadeModel.Proofs.ListLemmas

/-! Invariants of `_make_batch` / `_submit_batches` (C01, C02, C05, C07 component level). -/

namespace Jade.Batch
open Jade.Gen.Batch

/-! ### generated predicates in plain terms (one lemma each) -/

theorem cursorBump_iff (i : Nat) (hi : Int) : cursorBump i hi = true ↔ hi < (i : Int) := by
  simp [cursorBump]

theorem cursorRollback_iff (i : Nat) (hi : Int) : cursorRollback i hi = true ↔ hi = (i : Int) := by
  simp [cursorRollback]

theorem skipBatched_eq (b : Bool) : skipBatched b = b := rfl

theorem batchDone_ready (n m : Nat) : batchDone true n m = true := by simp [batchDone]

theorem batchDone_all (r : Bool) (n : Nat) : batchDone r n n = true := by simp [batchDone]

theorem allChecked_iff (hi : Int) (n : Nat) : allChecked hi n = true ↔ hi = (n : Int) - 1 := by
  simp [allChecked]

theorem isJobBlocked_false (bl : List Nat) (t : Bool) (names : List Nat)
    (h : isJobBlocked bl t names = false) :
    bl = [] ∨ (t = true ∧ ∀ x ∈ bl, x ∈ names) := by
  simp only [isJobBlocked, Bool.not_not, Bool.and_eq_true, subsetB_iff] at h
  grind

theorem isJobBlocked_nil (t : Bool) (names : List Nat) : isJobBlocked [] t names = false := by
  simp [isJobBlocked]

theorem tryAppendReject_iff (tb : Bool) (time est mx : Nat) :
    tryAppendReject tb time est mx = true ↔ (tb = true ∧ mx < time + 60 * est) := by
  simp [tryAppendReject]

theorem appendTimeInc_eq (e : Nat) : appendTimeInc e = 60 * e := rfl

theorem appendReady_iff (tb : Bool) (n bs : Nat) :
    appendReady tb n bs = true ↔ (tb = false ∧ bs ≤ n) := by
  cases tb <;> simp [appendReady]

theorem queueFull_iff (o d : Nat) : queueFull o d = true ↔ d ≤ o := by simp [queueFull]

theorem submitLoopGuard_iff (f : Bool) (a : List Nat) :
    submitLoopGuard f a = true ↔ (f = false ∧ a ≠ []) := by
  cases f <;> cases a <;> simp [submitLoopGuard]

theorem batchNonEmpty_iff (n : Nat) : batchNonEmpty n = true ↔ 0 < n := by simp [batchNonEmpty]

theorem maxIterations_pos (t : Bool) (n : Nat) (h : 0 < n) : 0 < maxIterations t n := by
  unfold maxIterations; split <;> omega

theorem tryAppend_true (p : Params) (b b' : BState) (c : Cand) (h : tryAppend p b c = (b', true)) :
    b' = appendJob p b c ∧ tryAppendReject p.timeBased b.time c.est p.maxTime = false := by
  unfold tryAppend at h; split at h <;> simp_all

theorem tryAppend_false (p : Params) (b b' : BState) (c : Cand) (h : tryAppend p b c = (b', false)) :
    b' = { b with ready := true } ∧ tryAppendReject p.timeBased b.time c.est p.maxTime = true := by
  unfold tryAppend at h; split at h <;> simp_all

theorem appendJob_names (p : Params) (b : BState) (c : Cand) :
    (appendJob p b c).names = b.names ++ [c.id] := by
  simp [appendJob, BState.names]

theorem bump_eq (i : Nat) (s : MState) : bump i s = { s with hi := max s.hi i } := by
  simp only [bump, cursorBump_iff]
  split
  · rw [Int.max_eq_right (by omega)]
  · rw [Int.max_eq_left (by omega)]

theorem markBlocked_eq (c : Cand) (s : MState) :
    markBlocked c s =
      { s with blocked := if s.blocked.any (·.id == c.id) then s.blocked else s.blocked ++ [c] } := by
  unfold markBlocked
  split <;> rfl

theorem mem_markBlocked {c d : Cand} {s : MState} (h : d ∈ (markBlocked c s).blocked) :
    d ∈ s.blocked ∨ d = c := by
  rw [markBlocked_eq] at h
  split at h
  · exact .inl h
  · simpa using h

theorem refuse_eq (b' : BState) (i : Nat) (s : MState) :
    refuse b' i s = { s with b := b', hi := if s.hi = i then s.hi - 1 else s.hi } := by
  simp only [refuse, cursorRollback_iff]
  split <;> rfl

theorem markDone_eq (n : Nat) (s : MState) :
    markDone n s = { s with done := s.done || batchDone s.b.ready s.b.jobs.length n } := by
  unfold markDone
  split
  · next h => simp [h]
  · next h => simp [h]

/-- Case analysis of one loop iteration; `bump i s` is the state after the cursor update. -/
theorem visit_ind {P : MState → Prop} (p : Params) (n : Nat) (s : MState) (i : Nat) (c : Cand)
    (done : s.done = true → P s)
    (skip : s.done = false → c.id ∈ (bump i s).b.names → P (bump i s))
    (blocked : s.done = false → c.id ∉ (bump i s).b.names →
      isJobBlocked c.blockedBy p.tryAdd (bump i s).b.names = true →
      P (markDone n (markBlocked c (bump i s))))
    (placed : s.done = false → c.id ∉ (bump i s).b.names →
      isJobBlocked c.blockedBy p.tryAdd (bump i s).b.names = false →
      tryAppendReject p.timeBased (bump i s).b.time c.est p.maxTime = false →
      P (markDone n (place (appendJob p (bump i s).b c) c (bump i s))))
    (refused : s.done = false → c.id ∉ (bump i s).b.names →
      isJobBlocked c.blockedBy p.tryAdd (bump i s).b.names = false →
      tryAppendReject p.timeBased (bump i s).b.time c.est p.maxTime = true →
      P (markDone n (refuse { (bump i s).b with ready := true } i (bump i s)))) :
    P (visit p n s i c) := by
  cases hd : s.done
  · simp only [visit, consider, tryAppend, skipBatched_eq, hd, Bool.false_eq_true, if_false,
      List.contains_iff_mem]
    by_cases hn : c.id ∈ (bump i s).b.names
    · rw [if_pos hn]; exact skip hd hn
    · cases hb : isJobBlocked c.blockedBy p.tryAdd (bump i s).b.names
      · cases hr : tryAppendReject p.timeBased (bump i s).b.time c.est p.maxTime
        · simpa [hn, hb, hr] using placed hd hn hb hr
        · simpa [hn, hb, hr] using refused hd hn hb hr
      · simpa [hn, hb] using blocked hd hn hb
  · simpa [visit, hd] using done hd

/-! ### the loop invariant of `_make_batch` -/

def timeOf (jobs : List Cand) : Nat := (jobs.map (fun c => 60 * c.est)).sum

theorem timeOf_append (l : List Cand) (c : Cand) : timeOf (l ++ [c]) = timeOf l + 60 * c.est := by
  simp [timeOf]

structure Core (p : Params) (avail : List Cand) (s : MState) : Prop where
  idx : ∀ c ∈ s.b.jobs, ∃ k : Nat, avail[k]? = some c ∧ (k : Int) ≤ s.hi
  nodup : (s.b.jobs.map (·.id)).Nodup
  time : p.timeBased = true → s.b.time = timeOf s.b.jobs ∧ s.b.time ≤ p.maxTime
  size : p.timeBased = false → s.b.jobs.length ≤ max 1 p.batchSize ∧
    (s.b.ready = false → s.b.jobs.length < p.batchSize ∨ s.b.jobs = [])
  blk : ∀ c ∈ s.b.jobs, c.blockedBy = [] ∨ (p.tryAdd = true ∧ ∀ x ∈ c.blockedBy, x ∈ s.b.names)
  hiLo : -1 ≤ s.hi
  hiHi : s.hi < (avail.length : Int)
  blocked : ∀ c ∈ s.blocked, c ∈ avail ∧ c.id ∉ s.b.names

/-- the loop invariant: `Core` plus "a ready batch ends the loops" -/
def Good (p : Params) (avail : List Cand) (s : MState) : Prop :=
  Core p avail s ∧ (s.b.ready = true → s.done = true)

theorem good_init (p : Params) (avail : List Cand) : Good p avail .init := by
  refine ⟨?_, by simp [MState.init, BState.empty]⟩
  constructor <;> simp [MState.init, BState.empty, timeOf, BState.names]
  omega

theorem Good.not_ready {p avail s} (h : Good p avail s) (hd : s.done = false) : s.b.ready = false := by
  cases hr : s.b.ready
  · rfl
  · rw [h.2 hr] at hd; cases hd

theorem bump_core {p avail s} (i : Nat) (hi : i < avail.length) (h : Core p avail s) :
    Core p avail (bump i s) := by
  rw [bump_eq]
  exact { h with
    idx := fun c hc => let ⟨k, hk, hle⟩ := h.idx c hc; ⟨k, hk, Int.le_trans hle (Int.le_max_left ..)⟩
    hiLo := Int.le_trans h.hiLo (Int.le_max_left ..)
    hiHi := Int.max_lt.2 ⟨h.hiHi, by omega⟩ }

theorem markBlocked_core {p avail s} (c : Cand) (hc : c ∈ avail) (hn : c.id ∉ s.b.names)
    (h : Core p avail s) : Core p avail (markBlocked c s) := by
  have hb : ∀ d ∈ (markBlocked c s).blocked, d ∈ avail ∧ d.id ∉ s.b.names := fun d hd =>
    (mem_markBlocked hd).elim (h.blocked d) (· ▸ ⟨hc, hn⟩)
  rw [markBlocked_eq] at hb ⊢
  exact { h with blocked := hb }

theorem markDone_good {p avail s} (n : Nat) (h : Core p avail s) : Good p avail (markDone n s) := by
  rw [markDone_eq]
  exact ⟨{ h with }, fun hr => by simp [show s.b.ready = true from hr, batchDone_ready]⟩

/-- placing an accepted candidate -/
theorem place_core {p avail s} (i : Nat) (c : Cand) (hget : avail[i]? = some c)
    (hile : (i : Int) ≤ s.hi) (hn : c.id ∉ s.b.names) (hnr : s.b.ready = false)
    (hunb : isJobBlocked c.blockedBy p.tryAdd s.b.names = false)
    (hrej : tryAppendReject p.timeBased s.b.time c.est p.maxTime = false)
    (h : Core p avail s) :
    Core p avail (place (appendJob p s.b c) c s) := by
  have hnames : (place (appendJob p s.b c) c s).b.names = s.b.names ++ [c.id] := appendJob_names ..
  refine { h with idx := ?_, nodup := ?_, time := ?_, size := ?_, blk := ?_, blocked := ?_ }
  · intro d hd
    rcases List.mem_append.1 hd with hd | hd
    · exact h.idx d hd
    · rw [List.mem_singleton.1 hd]; exact ⟨i, hget, hile⟩
  · show ((s.b.jobs ++ [c]).map (·.id)).Nodup
    rw [List.map_append, List.nodup_append]
    exact ⟨h.nodup, by simp, by simpa [BState.names] using hn⟩
  · intro htb
    have hfit : s.b.time + 60 * c.est ≤ p.maxTime := Nat.le_of_not_lt fun hlt => by
      simp [(tryAppendReject_iff ..).2 ⟨htb, hlt⟩] at hrej
    simpa only [place, appendJob, htb, if_true, timeOf_append, appendTimeInc_eq, ← (h.time htb).1,
      true_and] using hfit
  · intro htb
    have := h.size htb
    simp only [place, appendJob, List.length_append, List.length_singleton, hnr, Bool.false_or,
      Bool.eq_false_iff, ne_eq, appendReady_iff, htb, true_and]
    grind
  · intro d hd
    have hd' : d.blockedBy = [] ∨ (p.tryAdd = true ∧ ∀ x ∈ d.blockedBy, x ∈ s.b.names) := by
      rcases List.mem_append.1 hd with hd | hd
      · exact h.blk d hd
      · rw [List.mem_singleton.1 hd]; exact isJobBlocked_false _ _ _ hunb
    rw [hnames]
    exact hd'.imp_right fun ⟨ht, hb⟩ => ⟨ht, fun x hx => List.mem_append_left _ (hb x hx)⟩
  · intro d hd
    obtain ⟨hd1, hd2⟩ := List.mem_filter.1 hd
    have := h.blocked d hd1
    rw [hnames]
    simp_all

/-- a refused candidate: batch contents unchanged, marked ready, cursor possibly rolled back -/
theorem refuse_core {p avail s} (i : Nat) (c : Cand) (hget : avail[i]? = some c)
    (hn : c.id ∉ s.b.names) (h : Core p avail s) :
    Core p avail (refuse { s.b with ready := true } i s) := by
  rw [refuse_eq]
  refine { h with idx := fun d hd => ?_, size := fun htb => ⟨(h.size htb).1, nofun⟩, hiLo := ?_, hiHi := ?_ }
  · obtain ⟨k, hk, hle⟩ := h.idx d hd
    -- the job at index `i` is `c`, which is not in the batch
    have hki : k ≠ i := by
      rintro rfl
      cases hget.symm.trans hk
      exact hn (List.mem_map_of_mem hd)
    exact ⟨k, hk, by simp only; omega⟩
  · have := h.hiLo; simp only; omega
  · have := h.hiHi; simp only; omega

theorem visit_good {p avail s} (i : Nat) (c : Cand) (hget : avail[i]? = some c)
    (h : Good p avail s) : Good p avail (visit p avail.length s i c) := by
  have hb := bump_core (p := p) i (List.getElem?_eq_some_iff.1 hget).1 h.1
  have hile : (i : Int) ≤ (bump i s).hi := by rw [bump_eq]; exact Int.le_max_right ..
  apply visit_ind
  · exact fun _ => h
  · exact fun _ _ => ⟨hb, by rw [bump_eq]; exact h.2⟩
  · exact fun _ hn _ => markDone_good _ (markBlocked_core c (List.mem_of_getElem? hget) hn hb)
  · exact fun hd hn hunb hrej => markDone_good _
      (place_core i c hget hile hn (by rw [bump_eq]; exact h.not_ready hd) hunb hrej hb)
  · exact fun _ hn _ _ => markDone_good _ (refuse_core i c hget hn hb)

/-- Induction over the inner loop.  `I i s`: "`s` is a state in which index `i` is visited next". -/
theorem scan_ind {p : Params} {avail : List Cand} {I : Nat → MState → Prop}
    (hv : ∀ i c s, avail[i]? = some c → Good p avail s → I i s → I (i + 1) (visit p avail.length s i c))
    (i : Nat) (hi : i ≤ avail.length) (s : MState) (hg : Good p avail s) (h : I i s) :
    Good p avail (scan p avail.length i (avail.drop i) s) ∧
      I avail.length (scan p avail.length i (avail.drop i) s) := by
  generalize hcs : avail.drop i = cs
  induction cs generalizing i s with
  | nil =>
    have : i = avail.length := Nat.le_antisymm hi (List.drop_eq_nil_iff.1 hcs)
    exact ⟨hg, this ▸ h⟩
  | cons c cs ih =>
    have hget : avail[i]? = some c := by
      simpa [hcs] using (List.getElem?_drop (xs := avail) (i := i) (j := 0)).symm
    exact ih (i + 1) (List.getElem?_eq_some_iff.1 hget).1 _ (visit_good i c hget hg) (hv i c s hget hg h)
      (by rw [← List.drop_drop, hcs]; rfl)

theorem passes_of_done {p : Params} {avail : List Cand} {s : MState} (n : Nat) (h : s.done = true) :
    passes p avail n s = s := by
  cases n <;> simp [passes, h]

/-- Induction over both loops of `_make_batch`; `wrap` takes the invariant from the end of one pass to the
    start of the next.  Unless no pass is made, the final state is the end of a full pass. -/
theorem passes_ind {p : Params} {avail : List Cand} {I : Nat → MState → Prop}
    (hv : ∀ i c s, avail[i]? = some c → Good p avail s → I i s → I (i + 1) (visit p avail.length s i c))
    (wrap : ∀ s, Good p avail s → I avail.length s → I 0 s)
    (n : Nat) (s : MState) (hg : Good p avail s) (h : I 0 s) :
    Good p avail (passes p avail n s) ∧ I 0 (passes p avail n s) ∧
      (n = 0 ∨ s.done = true ∨ I avail.length (passes p avail n s)) := by
  induction n generalizing s with
  | zero => exact ⟨hg, h, .inl rfl⟩
  | succ n ih =>
    simp only [passes]
    split
    · next hd => exact ⟨hg, h, .inr (.inl hd)⟩
    · have hs := scan_ind hv 0 (Nat.zero_le _) s hg h
      rw [List.drop_zero] at hs
      have ⟨hg', h'⟩ := hs
      have ⟨hg'', h0, hn⟩ := ih _ hg' (wrap _ hg' h')
      refine ⟨hg'', h0, .inr (.inr ?_)⟩
      rcases hn with rfl | hd | hn
      · exact h'
      · rwa [passes_of_done n hd]
      · exact hn

theorem makeBatch_good (p : Params) (avail : List Cand) :
    Good p avail (passes p avail (maxIterations p.tryAdd avail.length) .init) :=
  (passes_ind (I := fun _ _ => True) (fun _ _ _ _ _ _ => trivial) (fun _ _ _ => trivial) _ _
    (good_init p avail) trivial).1

/-! ### consequences for the result of `_make_batch` -/

theorem makeBatch_sub (p : Params) (avail : List Cand) :
    ∀ c ∈ (makeBatch p avail).batch.jobs, c ∈ avail := by
  intro c hc
  obtain ⟨k, hk, -⟩ := (makeBatch_good p avail).1.idx c hc
  exact List.mem_of_getElem? hk

theorem makeBatch_nodup (p : Params) (avail : List Cand) :
    ((makeBatch p avail).batch.jobs.map (·.id)).Nodup :=
  (makeBatch_good p avail).1.nodup

theorem makeBatch_notChecked (p : Params) (avail : List Cand) :
    (makeBatch p avail).notChecked = avail.drop ((makeBatch p avail).hi + 1).toNat := by
  simp only [makeBatch]
  split
  · next h => rw [(allChecked_iff _ _).1 h, List.drop_of_length_le (by omega)]
  · rfl

theorem makeBatch_notChecked_sub (p : Params) (avail : List Cand) :
    ∀ c ∈ (makeBatch p avail).notChecked, c ∈ avail :=
  fun _ hc => List.mem_of_mem_drop (makeBatch_notChecked p avail ▸ hc)

theorem mem_notChecked_iff {p : Params} {avail : List Cand} {c : Cand} :
    c ∈ (makeBatch p avail).notChecked ↔ ∃ k : Nat, avail[k]? = some c ∧ (makeBatch p avail).hi < k := by
  have := (makeBatch_good p avail).1.hiLo
  rw [makeBatch_notChecked]
  constructor
  · intro h
    obtain ⟨j, hj⟩ := List.getElem?_of_mem h
    rw [List.getElem?_drop] at hj
    exact ⟨_, hj, by simp only [makeBatch]; omega⟩
  · rintro ⟨k, hk, hlt⟩
    apply List.mem_of_getElem? (i := k - ((makeBatch p avail).hi + 1).toNat)
    rw [List.getElem?_drop, ← hk]
    congr 1
    simp only [makeBatch] at hlt ⊢
    omega

theorem idx_not_notChecked (p : Params) (avail : List Cand) (hnd : (avail.map (·.id)).Nodup) (c : Cand) (k : Nat)
    (hk : avail[k]? = some c) (hle : (k : Int) ≤ (makeBatch p avail).hi) :
    ∀ d ∈ (makeBatch p avail).notChecked, c.id ≠ d.id := by
  intro d hd heq
  obtain ⟨j, hj, hlt⟩ := mem_notChecked_iff.1 hd
  have := nodup_map_index_inj (·.id) avail hnd k j c d hk hj heq
  omega

theorem makeBatch_disjoint (p : Params) (avail : List Cand) (hnd : (avail.map (·.id)).Nodup) :
    ∀ c ∈ (makeBatch p avail).batch.jobs, ∀ d ∈ (makeBatch p avail).notChecked, c.id ≠ d.id := by
  intro c hc
  obtain ⟨k, hk, hle⟩ := (makeBatch_good p avail).1.idx c hc
  exact idx_not_notChecked p avail hnd c k hk hle

theorem makeBatch_blocked_disjoint (p : Params) (avail : List Cand) :
    ∀ c ∈ (makeBatch p avail).blocked, c ∈ avail ∧ c.id ∉ (makeBatch p avail).batch.names :=
  (makeBatch_good p avail).1.blocked

theorem makeBatch_blk (p : Params) (avail : List Cand) :
    ∀ c ∈ (makeBatch p avail).batch.jobs,
      c.blockedBy = [] ∨ (p.tryAdd = true ∧ ∀ x ∈ c.blockedBy, x ∈ (makeBatch p avail).batch.names) :=
  (makeBatch_good p avail).1.blk

/-! ### progress facts of `_make_batch`: unblocked candidates, cursor never below 0 -/

/-- every candidate without remaining blockers at an index the cursor has passed is in the batch -/
def Unb (avail : List Cand) (s : MState) : Prop :=
  ∀ (k : Nat) (c : Cand), avail[k]? = some c → c.blockedBy = [] → (k : Int) ≤ s.hi → c.id ∈ s.b.names

/-- every candidate fits an empty batch (what `check_job_runtimes` guarantees) -/
def Fits (p : Params) (avail : List Cand) : Prop :=
  ∀ c ∈ avail, p.timeBased = true → 60 * c.est ≤ p.maxTime

/-- when the scan is not ahead of the cursor, only index `i` is new below the cursor after an iteration at `i` -/
theorem unb_step {avail s s'} {i : Nat} {c : Cand} (hget : avail[i]? = some c) (hu : Unb avail s)
    (hpos : (i : Int) - 1 ≤ s.hi) (hhi : s'.hi ≤ max s.hi i) (hsub : ∀ x ∈ s.b.names, x ∈ s'.b.names)
    (hi : c.blockedBy = [] → (i : Int) ≤ s'.hi → c.id ∈ s'.b.names) : Unb avail s' := by
  intro k d hk hb hle
  by_cases hki : k = i
  · subst hki; cases hget.symm.trans hk; exact hi hb hle
  · exact hsub _ (hu k d hk hb (by omega))

/-- one visit at scan position `i` keeps `Unb`, and re-establishes `i ≤ hi` unless done -/
theorem visit_unb {p avail s} (i : Nat) (c : Cand) (hget : avail[i]? = some c)
    (h : Unb avail s ∧ (s.done = false → (i : Int) - 1 ≤ s.hi)) :
    Unb avail (visit p avail.length s i c) ∧ ((visit p avail.length s i c).done = false →
      ((i + 1 : Nat) : Int) - 1 ≤ (visit p avail.length s i c).hi) := by
  obtain ⟨hu, hpos⟩ := h
  refine visit_ind (P := fun t => Unb avail t ∧ (t.done = false → ((i + 1 : Nat) : Int) - 1 ≤ t.hi))
    _ _ _ _ _ ?_ ?_ ?_ ?_ ?_
  · exact fun hd => ⟨hu, by simp [hd]⟩
  · intro hd hn
    exact ⟨unb_step hget hu (hpos hd) (by simp [bump_eq]) (by simp [bump_eq]) fun _ _ => hn,
      by simp [bump_eq]; omega⟩
  · intro hd _ hblk
    refine ⟨unb_step hget hu (hpos hd) (by simp [markDone_eq, markBlocked_eq, bump_eq])
      (by simp [markDone_eq, markBlocked_eq, bump_eq]) fun hb _ => ?_,
      by simp [markDone_eq, markBlocked_eq, bump_eq]; omega⟩
    rw [hb, isJobBlocked_nil] at hblk; cases hblk
  · intro hd _ _ _
    have hnames : (markDone avail.length (place (appendJob p (bump i s).b c) c (bump i s))).b.names
        = s.b.names ++ [c.id] := by rw [markDone_eq, bump_eq]; exact appendJob_names ..
    exact ⟨unb_step hget hu (hpos hd) (by simp [markDone_eq, place, bump_eq])
      (fun _ hx => hnames ▸ List.mem_append_left _ hx) fun _ _ => by simp [hnames],
      by simp [markDone_eq, place, bump_eq]; omega⟩
  · intro hd hn _ _
    simp only [markDone_eq, refuse_eq, bump_eq, batchDone_ready, Bool.or_true] at hn ⊢
    refine ⟨unb_step hget hu (hpos hd) (by simp only; omega) (fun _ hx => hx) fun hb hle => ?_, nofun⟩
    -- not rolled back, so the cursor was beyond `i` already
    exact hu i c hget hb (by simp only at hle; omega)

/-- C05 (component): a candidate without remaining blockers is batched or handed on as
    "not checked" — never silently dropped. -/
theorem makeBatch_unblocked (p : Params) (avail : List Cand) :
    ∀ c ∈ avail, c.blockedBy = [] →
      c.id ∈ (makeBatch p avail).batch.names ∨ c ∈ (makeBatch p avail).notChecked := by
  intro c hc hb
  obtain ⟨k, hk⟩ := List.getElem?_of_mem hc
  obtain ⟨-, ⟨hu, -⟩, -⟩ := passes_ind (p := p) (avail := avail)
    (I := fun i s => Unb avail s ∧ (s.done = false → (i : Int) - 1 ≤ s.hi))
    (fun i c s hget _ h => visit_unb i c hget h)
    (fun s hg h => ⟨h.1, fun _ => by have := hg.1.hiLo; omega⟩)
    (maxIterations p.tryAdd avail.length) .init (good_init p avail)
    ⟨fun k c _ _ hle => by simp [MState.init] at hle; omega, fun _ => by simp [MState.init]⟩
  by_cases hle : (k : Int) ≤ (makeBatch p avail).hi
  · exact .inl (hu k c hk hb hle)
  · exact .inr (mem_notChecked_iff.2 ⟨k, hk, by omega⟩)

/-! ### termination of `_submit_batches`: the candidate list shrinks -/

theorem visit_nonneg {p avail s} (i : Nat) (c : Cand) (hget : avail[i]? = some c)
    (h : Good p avail s) (hf : Fits p avail) (hs : s.done = false ∨ 0 ≤ s.hi) :
    0 ≤ (visit p avail.length s i c).hi := by
  refine visit_ind (P := fun t => 0 ≤ t.hi) _ _ _ _ _ ?_ ?_ ?_ ?_ ?_
  · exact fun hd => hs.resolve_left (by simp [hd])
  · intro _ _; simp only [bump_eq]; omega
  · intro _ _ _; simp only [markDone_eq, markBlocked_eq, bump_eq]; omega
  · intro _ _ _ _; simp only [markDone_eq, place, bump_eq]; omega
  · intro _ hn _ hrej
    simp only [markDone_eq, refuse_eq, bump_eq] at hn hrej ⊢
    split
    · next hi =>
      -- rolled back from `i` to `i - 1`: impossible at `i = 0`, where `c` fits the (then empty) batch
      have hi0 : i ≠ 0 := by
        rintro rfl
        have hempty : s.b.jobs = [] := List.eq_nil_iff_forall_not_mem.2 fun e he => by
          obtain ⟨k, hk, hkle⟩ := h.1.idx e he
          cases show k = 0 by omega
          cases hget.symm.trans hk
          exact hn (List.mem_map_of_mem he)
        obtain ⟨htb, hlt⟩ := (tryAppendReject_iff ..).1 hrej
        have ht := (h.1.time htb).1
        have := hf c (List.mem_of_getElem? hget) htb
        simp only [hempty, timeOf, List.map_nil, List.sum_nil] at ht
        omega
      omega
    · omega

/-- under validated estimates every call of `_make_batch` on a non-empty list consumes a candidate -/
theorem makeBatch_shrinks (p : Params) (avail : List Cand) (hne : avail ≠ []) (hf : Fits p avail) :
    (makeBatch p avail).notChecked.length < avail.length := by
  have hpos : 0 < avail.length := List.length_pos_iff.2 hne
  obtain ⟨-, -, h⟩ := passes_ind (p := p) (avail := avail)
    (I := fun i s => (s.done = false ∧ i = 0) ∨ 0 ≤ s.hi)
    (fun i c s hget hg h => .inr (visit_nonneg i c hget hg hf (h.imp_left (·.1))))
    (fun s _ h => .inr (h.resolve_left (by omega)))
    (maxIterations p.tryAdd avail.length) .init (good_init p avail) (.inl ⟨rfl, rfl⟩)
  have h0 : 0 ≤ (makeBatch p avail).hi := by
    have := maxIterations_pos p.tryAdd _ hpos
    rcases h with h | h | h | h
    · omega
    · cases h
    · omega
    · exact h
  rw [makeBatch_notChecked, List.length_drop]
  omega

/-! ### `_submit_batches` -/

/-- what C07 demands of every batch handed to `_submit_batch` -/
def BatchOK (p : Params) (jobs : List Cand) : Prop :=
  jobs ≠ [] ∧ (jobs.map (·.id)).Nodup ∧
  (p.timeBased = false → jobs.length ≤ max 1 p.batchSize) ∧
  (p.timeBased = true → timeOf jobs ≤ p.maxTime) ∧
  (∀ c ∈ jobs, c.blockedBy = [] ∨ (p.tryAdd = true ∧ ∀ x ∈ c.blockedBy, x ∈ jobs.map (·.id)))

def allJobs (bs : List Submitted) : List Cand := bs.flatMap (·.jobs)

theorem allJobs_snoc (acc : List Submitted) (b : Submitted) : allJobs (acc ++ [b]) = allJobs acc ++ b.jobs := by
  simp [allJobs]

structure LoopInv (p : Params) (cands avail : List Cand) (acc : List Submitted) : Prop where
  sub : ∀ c ∈ avail, c ∈ cands
  availNodup : (avail.map (·.id)).Nodup
  ok : ∀ b ∈ acc, BatchOK p b.jobs ∧ ∀ c ∈ b.jobs, c ∈ cands
  accNodup : ((allJobs acc).map (·.id)).Nodup
  disj : ∀ c ∈ allJobs acc, ∀ d ∈ avail, c.id ≠ d.id

theorem batch_nil_of_not_nonEmpty {p : Params} {avail : List Cand}
    (h : batchNonEmpty (makeBatch p avail).batch.jobs.length = false) : (makeBatch p avail).batch.jobs = [] :=
  List.length_eq_zero_iff.1 (Nat.eq_zero_of_not_pos fun hp => by simp [(batchNonEmpty_iff _).2 hp] at h)

theorem makeBatch_ok (p : Params) (avail : List Cand)
    (hne : batchNonEmpty (makeBatch p avail).batch.jobs.length = true) :
    BatchOK p (makeBatch p avail).batch.jobs :=
  have h := (makeBatch_good p avail).1
  ⟨List.length_pos_iff.1 ((batchNonEmpty_iff _).1 hne), h.nodup, fun htb => (h.size htb).1,
    fun htb => (h.time htb).1 ▸ (h.time htb).2, h.blk⟩

theorem loopInv_step {p cands avail acc} (h : LoopInv p cands avail acc) :
    (batchNonEmpty (makeBatch p avail).batch.jobs.length = true → ∀ ok,
      LoopInv p cands (makeBatch p avail).notChecked
        (acc ++ [{ jobs := (makeBatch p avail).batch.jobs, accepted := ok }])) ∧
    LoopInv p cands (makeBatch p avail).notChecked acc := by
  have hsub' := makeBatch_notChecked_sub p avail
  have h2 : LoopInv p cands (makeBatch p avail).notChecked acc :=
    { h with
      sub := fun c hc => h.sub c (hsub' c hc)
      availNodup := by
        rw [makeBatch_notChecked, List.map_drop]
        exact h.availNodup.sublist (List.drop_sublist _ _)
      disj := fun c hc d hd => h.disj c hc d (hsub' d hd) }
  refine ⟨fun hne ok => { h2 with ok := ?_, accNodup := ?_, disj := ?_ }, h2⟩
  · intro b hb
    rcases List.mem_append.1 hb with hb | hb
    · exact h.ok b hb
    · rw [List.mem_singleton.1 hb]
      exact ⟨makeBatch_ok p avail hne, fun c hc => h.sub c (makeBatch_sub p avail c hc)⟩
  · rw [allJobs_snoc, List.map_append, List.nodup_append]
    refine ⟨h.accNodup, makeBatch_nodup p avail, ?_⟩
    intro a ha b hb hab
    obtain ⟨c, hc, rfl⟩ := List.mem_map.1 ha
    obtain ⟨d, hd, rfl⟩ := List.mem_map.1 hb
    exact h.disj c hc d (makeBatch_sub p avail d hd) hab
  · intro c hc d hd
    rw [allJobs_snoc] at hc
    rcases List.mem_append.1 hc with hc | hc
    · exact h2.disj c hc d hd
    · exact makeBatch_disjoint p avail h.availNodup c hc d hd

/-- Induction over the `while` loop of `_submit_batches`: an invariant `J out avail env acc blk` of the loop
    variables that both kinds of iteration (a batch handed over / an empty batch) keep holds of the result,
    with a remaining candidate list on which the loop guard fails unless the fuel ran out. -/
theorem submitLoop_ind {p : Params} {depth : Nat} {dryRun : Bool}
    {J : Nat → List Cand → List Bool → List Submitted → List Cand → Prop}
    (step : ∀ out avail env acc blk, J out avail env acc blk →
      submitLoopGuard (queueFull out depth) (avail.map (·.id)) = true →
      (batchNonEmpty (makeBatch p avail).batch.jobs.length = true →
        J (afterSubmit (sbatchOutcome dryRun env).1 out) (makeBatch p avail).notChecked
          (sbatchOutcome dryRun env).2
          (acc ++ [{ jobs := (makeBatch p avail).batch.jobs, accepted := (sbatchOutcome dryRun env).1 }])
          (blk ++ (makeBatch p avail).blocked)) ∧
      (batchNonEmpty (makeBatch p avail).batch.jobs.length = false →
        J out (makeBatch p avail).notChecked env acc (blk ++ (makeBatch p avail).blocked)))
    (fuel out : Nat) (avail : List Cand) (env : List Bool) (acc : List Submitted) (blk : List Cand)
    (h : J out avail env acc blk) :
    ∃ out' avail' env' acc' blk' div,
      submitLoop p depth dryRun fuel out avail env acc blk =
        { batches := acc', blocked := blk', outstanding := out', env := env', diverged := div } ∧
      J out' avail' env' acc' blk' ∧
      (div = false → submitLoopGuard (queueFull out' depth) (avail'.map (·.id)) = false) := by
  induction fuel generalizing out avail env acc blk with
  | zero => exact ⟨out, avail, env, acc, blk, _, rfl, h, id⟩
  | succ f ih =>
    simp only [submitLoop]
    split
    · next hg =>
      split
      · next hne => exact ih _ _ _ _ _ ((step _ _ _ _ _ h hg).1 hne)
      · next hne => exact ih _ _ _ _ _ ((step _ _ _ _ _ h hg).2 (by simpa using hne))
    · next hg => exact ⟨out, avail, env, acc, blk, false, rfl, h, fun _ => by simpa using hg⟩

/-- C06 (component): the HPC-level queue never exceeds its depth through `_submit_batches` -/
theorem submitLoop_outstanding (p : Params) (depth : Nat) (dryRun : Bool) :
    ∀ (fuel out : Nat) (avail : List Cand) (env : List Bool) (acc : List Submitted) (blk : List Cand),
      (submitLoop p depth dryRun fuel out avail env acc blk).outstanding ≤ max out depth := by
  intro fuel out avail env acc blk
  obtain ⟨out', _, _, _, _, _, heq, h, -⟩ := submitLoop_ind (p := p) (depth := depth) (dryRun := dryRun)
    (J := fun out' _ _ _ _ => out' ≤ max out depth) (fun out' _ env _ _ h hg => by
      have : out' < depth := Nat.lt_of_not_le fun hle => by
        simp [(queueFull_iff _ _).2 hle, submitLoopGuard] at hg
      refine ⟨fun _ => ?_, fun _ => h⟩
      unfold afterSubmit
      split <;> omega) fuel out avail env acc blk (by omega)
  rw [heq]
  exact h

/-- C07 (`fuel_suffices`): with validated estimates the `while` loop terminates within the fuel
    the driver passes -/
theorem submitLoop_terminates (p : Params) (depth : Nat) (dryRun : Bool) :
    ∀ (fuel out : Nat) (avail : List Cand) (env : List Bool) (acc : List Submitted) (blk : List Cand),
      Fits p avail → avail.length < fuel →
      (submitLoop p depth dryRun fuel out avail env acc blk).diverged = false := by
  intro fuel
  induction fuel with
  | zero => intro out avail env acc blk _ hl; omega
  | succ f ih =>
    intro out avail env acc blk hf hl
    simp only [submitLoop]
    split
    · next hg =>
      have hne : avail ≠ [] := by simpa using ((submitLoopGuard_iff _ _).1 hg).2
      have hsh := makeBatch_shrinks p avail hne hf
      have hf' : Fits p (makeBatch p avail).notChecked :=
        fun c hc => hf c (makeBatch_notChecked_sub p avail c hc)
      split
      · exact ih _ _ _ _ _ hf' (by omega)
      · exact ih _ _ _ _ _ hf' (by omega)
    · rfl

/-- C05 (component): when the loop ends, either the node limit is reached or every candidate
    without remaining blockers was placed in a batch of this call -/
theorem submitLoop_unblocked (p : Params) (depth : Nat) (dryRun : Bool) (cands : List Cand) :
    ∀ (fuel out : Nat) (avail : List Cand) (env : List Bool) (acc : List Submitted) (blk : List Cand),
      (∀ c ∈ cands, c.blockedBy = [] → c.id ∈ (allJobs acc).map (·.id) ∨ c ∈ avail) →
      (submitLoop p depth dryRun fuel out avail env acc blk).diverged = false →
      queueFull (submitLoop p depth dryRun fuel out avail env acc blk).outstanding depth = true ∨
      ∀ c ∈ cands, c.blockedBy = [] →
        c.id ∈ (allJobs (submitLoop p depth dryRun fuel out avail env acc blk).batches).map (·.id) := by
  intro fuel out avail env acc blk h
  -- an iteration moves the unblocked candidates of `avail` into the new batch or hands them on
  have step : ∀ (avail : List Cand) (acc acc' : List Submitted),
      allJobs acc' = allJobs acc ++ (makeBatch p avail).batch.jobs →
      (∀ c ∈ cands, c.blockedBy = [] → c.id ∈ (allJobs acc).map (·.id) ∨ c ∈ avail) →
      ∀ c ∈ cands, c.blockedBy = [] →
        c.id ∈ (allJobs acc').map (·.id) ∨ c ∈ (makeBatch p avail).notChecked := by
    intro avail acc acc' hall h c hc hb
    rw [hall, List.map_append, List.mem_append]
    rcases h c hc hb with h' | h'
    · exact .inl (.inl h')
    · exact (makeBatch_unblocked p avail c h' hb).imp_left .inr
  obtain ⟨out', avail', _, acc', _, _, heq, hJ, hg⟩ := submitLoop_ind (p := p) (depth := depth)
    (dryRun := dryRun)
    (J := fun _ avail _ acc _ => ∀ c ∈ cands, c.blockedBy = [] → c.id ∈ (allJobs acc).map (·.id) ∨ c ∈ avail)
    (fun _ avail _ acc _ h _ =>
      ⟨fun _ => step avail acc _ (allJobs_snoc ..) h,
       fun hne => step avail acc acc (by simp [batch_nil_of_not_nonEmpty hne]) h⟩)
    fuel out avail env acc blk h
  rw [heq]
  intro hd
  have hg := hg hd
  by_cases hq : queueFull out' depth = true
  · exact .inl hq
  · have hav : avail' = [] := by simpa [submitLoopGuard, hq] using hg
    exact .inr fun c hc hb => (hJ c hc hb).resolve_right (by simp [hav])

/-! ### candidate order: stable sort by estimate is a permutation -/

theorem insertByEst_perm (c : Cand) (l : List Cand) : (insertByEst c l).Perm (c :: l) := by
  induction l with
  | nil => simp [insertByEst]
  | cons d ds ih =>
    simp only [insertByEst]
    split
    · exact (List.Perm.cons d ih).trans (List.Perm.swap c d ds)
    · exact List.Perm.refl _

theorem sortByEst_perm (l : List Cand) : (sortByEst l).Perm l := by
  induction l with
  | nil => simp [sortByEst]
  | cons c cs ih =>
    simp only [sortByEst, List.foldr_cons]
    exact (insertByEst_perm c _).trans (List.Perm.cons c ih)

theorem candOrder_perm (p : Params) (cands : List Cand) :
    (if sortByTime p.timeBased then sortByEst cands else cands).Perm cands := by
  split
  · exact sortByEst_perm cands
  · exact .refl _

theorem loopInv_init (p : Params) (cands : List Cand) (hnd : (cands.map (·.id)).Nodup) :
    LoopInv p cands (if sortByTime p.timeBased then sortByEst cands else cands) [] :=
  have hp := candOrder_perm p cands
  ⟨fun _ hc => hp.mem_iff.1 hc, (hp.map _).nodup_iff.2 hnd, nofun, .nil, nofun⟩

/-- every batch of one `_submit_batches` call is well-formed, and no job is in two of them -/
theorem submitBatches_spec (p : Params) (depth : Nat) (dryRun : Bool) (out : Nat) (cands : List Cand)
    (env : List Bool) (hnd : (cands.map (·.id)).Nodup) :
    (∀ b ∈ (submitBatches p depth dryRun out cands env).batches,
        BatchOK p b.jobs ∧ ∀ c ∈ b.jobs, c ∈ cands) ∧
      ((allJobs (submitBatches p depth dryRun out cands env).batches).map (·.id)).Nodup := by
  obtain ⟨_, _, _, _, _, _, heq, h, -⟩ := submitLoop_ind (p := p) (depth := depth) (dryRun := dryRun)
    (J := fun _ avail _ acc _ => LoopInv p cands avail acc)
    (fun _ _ _ _ _ h _ => ⟨fun hne => (loopInv_step h).1 hne _, fun _ => (loopInv_step h).2⟩)
    _ out _ env [] [] (loopInv_init p cands hnd)
  rw [submitBatches, heq]
  exact ⟨h.ok, h.accNodup⟩

/-- with `dryRun` the batches are those of a run in which every `sbatch` is accepted -/
theorem submitLoop_dryRun (p : Params) (depth : Nat) :
    ∀ (fuel out : Nat) (avail : List Cand) (env env' : List Bool) (acc acc' : List Submitted)
      (blk : List Cand),
      (∀ e ∈ env', e = true) → fuel ≤ env'.length → acc.map (·.jobs) = acc'.map (·.jobs) →
      (submitLoop p depth true fuel out avail env acc blk).batches.map (·.jobs) =
        (submitLoop p depth false fuel out avail env' acc' blk).batches.map (·.jobs) ∧
      (submitLoop p depth true fuel out avail env acc blk).env = env := by
  intro fuel
  induction fuel with
  | zero => intro out avail env env' acc acc' blk _ _ h; simp [submitLoop, h]
  | succ f ih =>
    intro out avail env env' acc acc' blk htrue hlen hacc
    cases env' with
    | nil => simp at hlen
    | cons e es =>
      have he : e = true := htrue e (by simp)
      subst he
      simp only [submitLoop]
      split
      · split
        · have := ih (afterSubmit true out) (makeBatch p avail).notChecked env es
            (acc ++ [{ jobs := (makeBatch p avail).batch.jobs, accepted := true }])
            (acc' ++ [{ jobs := (makeBatch p avail).batch.jobs, accepted := true }])
            (blk ++ (makeBatch p avail).blocked)
            (fun e he => htrue e (by simp [he])) (by simpa using hlen) (by simp [hacc])
          simpa [sbatchOutcome] using this
        · exact ih _ _ _ (true :: es) _ _ _ htrue (by simp at hlen ⊢; omega) hacc
      · simp [hacc]

end Jade.Batch
