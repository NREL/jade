import JadeModel.Proofs.ResultsFault

/-!
Second invariant of the fault model (`Props/C08Faults.lean`): *no row is ever reported twice*, whatever
failed or died.  Counting argument: every row a finished round has returned, every row the round in
progress (alive or dead) has taken out of a node file and not yet returned, and every row still in a
node file are distinct occurrences of rows written by runners.  An aborted / killed round only ever
drops its claim (its rows are then reported to no one), it never returns it.
-/

namespace Jade.Results
open Jade.Gen.Results

/-- rows a collection has taken out of node files (the removal has happened) and not yet returned -/
def Coll.claimed {ρ : Type} : Coll ρ → List ρ
  | .idle => []
  | .collecting _ acc => acc
  | .moving _ _ acc buf pc => if removed pc then acc ++ buf else acc

section Once
variable {ρ : Type} [DecidableEq ρ] {L : ρ → Prop} {faulty : Prop}

structure Once (s : AState ρ) : Prop extends Safe s where
  atMost : ∀ a : ρ, (returnedRows s).count a + (active s).claimed.count a + (nodeRows s).count a
      ≤ (writtenRows s).count a

theorem once_init (created : Bool) : Once (init (absOps ρ) created) where
  toSafe := safe_init created
  atMost := by cases created <;> simp [init, absOps, writtenRows, returnedRows, active, nodeRows, Coll.claimed]

section
attribute [local simp] writtenRows returnedRows nodeRows active Coll.claimed removed State.setColl State.setNode
  State.setNodeLock

theorem once_step {s s' : AState ρ} (h : Once s) (t : Step L faulty s s') : Once s' where
  toSafe := safe_step h.toSafe t
  atMost a := by
    have h1 := h.atMost a
    cases t with
    | @append w b r hr hl =>
      have h2 := (nodeRows_append h.toDirs b r w).count_eq a
      simp at h1 h2 ⊢
      omega
    | cancel | opened => exact h1
    | begin hc hl => simpa [hl] using h1
    | lock hc | copy hc => simpa [h.excl.holder hc, hc] using h1
    | finish hc =>
      simp [h.excl.holder hc, hc, Ret.toRows] at h1 ⊢
      omega
    | raise hc =>
      simp [(h.excl _).2 hc.not_idle, Ret.toRows] at h1 ⊢
      omega
    | remove hc hf | dieRemoved _ hc hf =>
      have h2 := (nodeRows_erase h.toDirs hf).count_eq a
      have := (h.moving _ _ _ _ _ _ hc).2
      simp [h.excl.holder hc, hc, hf] at h1 h2 this ⊢
      rw [this.1] at h2
      omega
    | breakLocks _ dead =>
      cases hl : s.consLock with
      | none => simpa [hl] using h1
      | some p =>
        by_cases hd : p ∈ dead <;> simp [hl, hd] at h1 ⊢ <;> omega
end

theorem once_runX {x : AXState ρ} (h : Once x.base) (ops : List (OpX ρ)) : Once (runX (absOpsX ρ) x ops).base :=
  runX_inv (L := fun _ => True) (fun _ h => h.pcOk) (fun _ _ => once_step) h ops fun o _ => o.rowsIn_true

end Once
end Jade.Results
