import JadeModel.Proofs.SystemOutcomeDefs

/-! Every row on disk is for a configured job. -/

namespace Jade.Sys

structure RowBound (s : Sys) : Prop where
  rows : ∀ r, OnDisk s r → r.job < s.sc.n
  toCancel : ∀ q a y, s.procs q = .sub a y → ∀ j ∈ y.toCancel, j < s.sc.n
  batch : ∀ B ∈ s.batches, ∀ j ∈ B.jobs, j < s.sc.n
  node : ∀ p a n, s.procs p = .node a n → (∀ j ∈ n.queued, j < s.sc.n) ∧ (∀ j ∈ n.running, j < s.sc.n)

theorem rowBound_init (sc : Scn) : RowBound (init sc) := by
  refine ⟨?_, ?_, ?_, ?_⟩ <;> simp [init, OnDisk, OnDiskF]

theorem rowBound_step {s s' : Sys} {op : Op} (hi : RowBound s) (h : Step s op s') : RowBound s' where
  rows := by
    simp only [onDisk_step h]
    induction h <;> simp only [newRow, reduceCtorEq, or_false] <;>
      first | exact hi.rows | (have := hi.rows; have := hi.toCancel; have := hi.node; frame_goal; grind)
  toCancel := by
    induction h <;> intro q a y hq <;> proc_cases at hq from hi.toCancel <;>
      (frame_goal; grind [→ hi.toCancel, SubP.load, cancelSetOk_iff])
  batch := by
    have := hi.batch
    induction h <;> first | assumption | (frame_goal; grind)
  node := by
    induction h <;> intro q a n hq <;> proc_cases at hq from hi.node <;> (frame_goal; grind [→ hi.node, hi.batch, find?_hid])

theorem row_job_lt (sc : Scn) (ops : List Op) (s : Sys) (h : run (init sc) ops = some s) (r : Row) (hr : OnDisk s r) :
    r.job < sc.n := by
  have := (run_inv rowBound_step ops (rowBound_init sc) h).rows r hr
  rwa [sc_run ops h] at this

end Jade.Sys
