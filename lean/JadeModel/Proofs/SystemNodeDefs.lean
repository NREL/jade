import JadeModel.Proofs.SystemBase

/-! Node runners: every start belongs to exactly one batch and happens once. -/

namespace Jade.Sys

theorem mem_unique_batch {bs : List Batch} (hn : (bs.flatMap (·.jobs)).Nodup) {b b' : Batch} {j : JobId}
    (hb : b ∈ bs) (hb' : b' ∈ bs) (hj : j ∈ b.jobs) (hj' : j ∈ b'.jobs) : b = b' := by
  induction bs with
  | nil => cases hb
  | cons c cs ih =>
    simp only [List.flatMap_cons, List.nodup_append] at hn
    grind

structure NodeInv (s : Sys) : Prop where
  batch : BatchInv s
  /-- a node runner works on the batch whose HPC id it has -/
  ofBatch : ∀ p a n, s.procs p = .node a n →
    ∃ b ∈ s.batches, b.hid = some n.hid ∧ b.bid = n.bid ∧ (∀ j ∈ n.queued, j ∈ b.jobs) ∧ (∀ j ∈ n.running, j ∈ b.jobs)
  /-- what waits in a node queue has not been started -/
  queuedFresh : ∀ p a n, s.procs p = .node a n → ∀ j ∈ n.queued, j ∉ s.starts.map (·.1)
  /-- one runner per HPC id -/
  oneRunner : ∀ p p' a a' n n', s.procs p = .node a n → s.procs p' = .node a' n' → n.hid = n'.hid → p = p'
  /-- the scheduler started (or ended) the batch of every runner -/
  started : ∀ p a n, s.procs p = .node a n → s.slurm n.hid = some .running ∨ s.slurm n.hid = some .ended
  /-- HPC ids are not reused, and the id of a batch exists on the scheduler -/
  hidUnique : ∀ b ∈ s.batches, ∀ b' ∈ s.batches, ∀ h, b.hid = some h → b'.hid = some h → b = b'
  hidKnown : ∀ b ∈ s.batches, ∀ h, b.hid = some h → (s.slurm h).isSome = true
  /-- every start happened on the node of the batch that contains the job, after the batch began -/
  startsIn : ∀ jh ∈ s.starts, (∃ b ∈ s.batches, b.hid = some jh.2 ∧ jh.1 ∈ b.jobs) ∧
    (s.slurm jh.2 = some .running ∨ s.slurm jh.2 = some .ended)
  startsNodup : (s.starts.map (·.1)).Nodup

theorem nodeInv_init (sc : Scn) : NodeInv (init sc) := by
  refine ⟨batchInv_init sc, ?_, ?_, ?_, ?_, ?_, ?_, ?_, ?_⟩ <;> simp [init]

theorem find?_hid {bs : List Batch} {h : Hid} {b : Batch}
    (hf : bs.find? (fun b => b.hid == some h) = some b) : b ∈ bs ∧ b.hid = some h :=
  ⟨List.mem_of_find?_eq_some hf, by simpa using List.find?_some hf⟩

/-- a job waiting in one node queue is in no other node queue -/
theorem queued_unique {s : Sys} (hi : NodeInv s) {p p' : Pid} {a a' : Bool} {n n' : NodeP} {j : JobId}
    (hp : s.procs p = .node a n) (hp' : s.procs p' = .node a' n') (hj : j ∈ n.queued) (hj' : j ∈ n'.queued) :
    p = p' := by
  obtain ⟨b, hb, hh, -, hq, -⟩ := hi.ofBatch p a n hp
  obtain ⟨b', hb', hh', -, hq', -⟩ := hi.ofBatch p' a' n' hp'
  have hbb : b = b' := mem_unique_batch hi.batch.jobsNodup hb hb' (hq j hj) (hq' j hj')
  subst hbb
  have : n.hid = n'.hid := by rw [hh] at hh'; exact Option.some.inj hh'
  exact hi.oneRunner p p' a a' n n' hp hp' this

#realize_aux Jade

end Jade.Sys
