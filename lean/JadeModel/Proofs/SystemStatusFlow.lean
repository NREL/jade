import JadeModel.Proofs.SystemStatus
import JadeModel.Proofs.SystemOutcome
import JadeModel.Proofs.SystemStatusFlow0
import JadeModel.Proofs.SystemStatusFlowA
import JadeModel.Proofs.SystemStatusFlowB

/-! Fault-free status flow (C09): `FlowA` (completion tokens are unique) and `FlowB` (where a job's token is
    determines its state) are preserved by every fault-free event. -/
