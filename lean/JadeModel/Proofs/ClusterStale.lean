import JadeModel.Proofs.ClusterCoherent

/-!
Rejection of writes by handles with out-of-date copies (no assumption on the history), and acceptance of writes by
handles whose copies are current.
-/

namespace Jade.Cluster
open Jade.Gen.Cluster

theorem serializeCfg_stale (d : Disk) (x : Handle) (hs : x.cfg.version ≠ d.cfgVer) :
    serializeCfg d x = (d, x, some .versionMismatch) := by
  simp [serializeCfg, cfgVersionMismatch_iff, hs]

theorem serializeJs_stale (d : Disk) (x : Handle) (j : JsView) (hs : j.version ≠ d.jsVer) :
    serializeJs d x j = (d, x, some .versionMismatch) := by
  simp [serializeJs, jsVersionMismatch_iff, hs]

theorem serializeCfg_ok (d : Disk) (x : Handle) (hv : x.cfg.version = d.cfgVer) : (serializeCfg d x).2.2 = none := by
  rcases serializeCfg_cases d x with ⟨h1, _⟩ | ⟨_, _, h3⟩ | ⟨_, _, h3⟩
  · exact absurd hv h1
  all_goals rw [h3]

theorem serializeJs_ok (d : Disk) (x : Handle) (j : JsView) (hv : j.version = d.jsVer) :
    (serializeJs d x j).2.2 = none := by
  rcases serializeJs_cases d x j with ⟨h1, _⟩ | ⟨_, _, h3⟩ | ⟨_, _, h3⟩
  · exact absurd hv h1
  all_goals rw [h3]

theorem serializeBoth_ok (d : Disk) (x : Handle) (j : JsView) (hv : x.cfg.version = d.cfgVer)
    (hj : j.version = d.jsVer) : (serializeBoth d x j).2.2 = .ok := by
  unfold serializeBoth
  simp only [serializeCfg_ok d x hv]
  rw [serializeJs_ok _ _ _ (by rw [(serializeCfg_rest d x).2.1]; exact hj)]
  rfl

theorem doUpdate_current (a : UpdateArgs) (d : Disk) (x : Handle) (j : JsView) (hv : x.cfg.version = d.cfgVer)
    (hj : x.js = some j) (hjv : j.version = d.jsVer) :
    (∀ e : Err, (applyUpdate a { cfg := x.cfg, js := j }).2 = some e →
      doUpdate a d x = (d, { x with cfg := (applyUpdate a { cfg := x.cfg, js := j }).1.cfg,
                                    js := some (applyUpdate a { cfg := x.cfg, js := j }).1.js }, .err e)) ∧
    ((applyUpdate a { cfg := x.cfg, js := j }).2 = none →
      doUpdate a d x = serializeBoth d { x with cfg := (applyUpdate a { cfg := x.cfg, js := j }).1.cfg,
                                                js := some (applyUpdate a { cfg := x.cfg, js := j }).1.js }
        (applyUpdate a { cfg := x.cfg, js := j }).1.js) := by
  constructor <;> intros <;>
    simp [doUpdate, checkVersions, checkCfgMismatch_iff, checkJsMismatch_iff, *]

/-! ### out-of-date config copy -/

theorem doUpdate_stale (a : UpdateArgs) (d : Disk) (x : Handle) (hs : x.cfg.version ≠ d.cfgVer) :
    doUpdate a d x = (d, x, .err .versionMismatch) := by
  simp [doUpdate, checkVersions, checkCfgMismatch_iff, hs]

theorem doMarkCanceled_stale (d : Disk) (x : Handle) (hs : x.cfg.version ≠ d.cfgVer) :
    doMarkCanceled d x = (d, { x with cfg := { x.cfg with isCanceled := true } }, .err .versionMismatch) := by
  rw [doMarkCanceled, serializeCfg_stale d _ (by exact hs)]; rfl

theorem doMarkComplete_stale (d : Disk) (x : Handle) (hs : x.cfg.version ≠ d.cfgVer) :
    (x.cfg.isComplete = true ∧ doMarkComplete d x = (d, x, .err .assertion)) ∨
    (x.cfg.isComplete = false ∧
      doMarkComplete d x = (d, { x with cfg := { x.cfg with isComplete := true } }, .err .versionMismatch)) := by
  cases hc : x.cfg.isComplete
  · exact .inr ⟨rfl, by rw [doMarkComplete, if_pos ((markCompleteAssert_iff _).2 hc), serializeCfg_stale d _ (by exact hs)]; rfl⟩
  · exact .inl ⟨rfl, by simp [doMarkComplete, markCompleteAssert_iff, hc]⟩

/-- `prepare_for_resubmission` with an out-of-date config copy: nothing is written (and, as no lock is taken, no marker
    appears either) -/
theorem doPrepareResubmit_stale (sel : List JobId) (bl : List (JobId × List JobId)) (d : Disk) (x : Handle)
    (hs : x.cfg.version ≠ d.cfgVer) :
    (doPrepareResubmit sel bl d x).1 = d ∧
    ((doPrepareResubmit sel bl d x).2.2 = .err .assertion ∨ (doPrepareResubmit sel bl d x).2.2 = .err .versionMismatch) := by
  unfold doPrepareResubmit
  split
  · split
    · exact ⟨rfl, Or.inl rfl⟩
    · rw [serializeBoth, serializeCfg_stale d _ (by exact hs)]
      exact ⟨rfl, Or.inr rfl⟩
  · exact ⟨rfl, Or.inl rfl⟩

theorem prepareResubmit_stale (s : Sys) (h : Hid) (x : Handle) (sel : List JobId) (bl : List (JobId × List JobId))
    (hx : s.handles h = some x) (hstale : x.cfg.version ≠ s.disk.cfgVer) :
    ((step s (.prepareResubmit h sel bl)).2 = .err .assertion ∨
      (step s (.prepareResubmit h sel bl)).2 = .err .versionMismatch) ∧
    (step s (.prepareResubmit h sel bl)).1.disk = s.disk := by
  simp only [step, resubmitLocked_eq, Bool.false_eq_true, if_false]
  rw [unlocked_run s h _ x hx]
  exact (doPrepareResubmit_stale sel bl s.disk x hstale).symm

/-! ### out-of-date job-status copy -/

theorem doUpdate_jsStale (a : UpdateArgs) (d : Disk) (x : Handle) (j : JsView) (hj : x.js = some j)
    (hs : j.version ≠ d.jsVer) : doUpdate a d x = (d, x, .err .versionMismatch) := by
  by_cases hv : x.cfg.version = d.cfgVer
  · simp [doUpdate, checkVersions, checkCfgMismatch_iff, checkJsMismatch_iff, hv, hj, hs]
  · exact doUpdate_stale a d x hv

theorem doCompleteHpcId_jsStale (id : Nat) (d : Disk) (x : Handle) (j : JsView) (hj : x.js = some j)
    (hs : j.version ≠ d.jsVer) :
    (j.hpcIds.contains id = false ∧ doCompleteHpcId id d x = (d, x, .err .valueError)) ∨
    (j.hpcIds.contains id = true ∧
      doCompleteHpcId id d x =
        (d, { x with js := some { j with hpcIds := j.hpcIds.erase id } }, .err .versionMismatch)) := by
  cases hc : j.hpcIds.contains id
  · exact .inl ⟨rfl, by simp only [doCompleteHpcId, hj, hc]; rfl⟩
  · exact .inr ⟨rfl, by simp only [doCompleteHpcId, hj, hc, if_true]; rw [serializeJs_stale d _ _ (by exact hs)]; rfl⟩

theorem locked_unwritten (s : Sys) (h : Hid) (f : Disk → Handle → Out) (x y : Handle) (r : Res)
    (hx : s.handles h = some x) (hm : s.disk.marker = false) (hf : f s.disk x = (s.disk, y, r)) :
    (locked s h f).2 = r ∧ (locked s h f).1.disk = { s.disk with marker := markerAfter r } := by
  rw [locked_run s h f x hx hm, hf]
  exact ⟨rfl, rfl⟩

/-! ### current copies: no rejection -/

theorem doUpdate_notStale (a : UpdateArgs) (d : Disk) (x : Handle) (hv : x.cfg.version = d.cfgVer)
    (hj : ∀ j : JsView, x.js = some j → j.version = d.jsVer) :
    (doUpdate a d x).2.2 ≠ .err .versionMismatch := by
  cases hjs : x.js with
  | none => simp [doUpdate, checkVersions, checkCfgMismatch_iff, hv, hjs]
  | some j =>
    obtain ⟨h1, h2⟩ := doUpdate_current a d x j hv hjs (hj j hjs)
    obtain ⟨hf, he⟩ := applyUpdate_tame a { cfg := x.cfg, js := j }
    rcases he with he | he | he
    · rw [h2 he, serializeBoth_ok _ _ _ (hf.version.trans hv) (hf.jsVersion.trans (hj j hjs))]
      simp
    · rw [h1 _ he]; simp
    · rw [h1 _ he]; simp

theorem resOf_ne_mismatch (e : Option Err) (h : e = none) : resOf e ≠ .err .versionMismatch := by
  rw [h]; simp [resOf]

theorem doDemote_notStale (d : Disk) (x : Handle) (hv : x.cfg.version = d.cfgVer) :
    (doDemote d x).2.2 ≠ .err .versionMismatch := by
  unfold doDemote
  split
  · exact resOf_ne_mismatch _ (serializeCfg_ok d _ hv)
  · simp

theorem doMarkComplete_notStale (d : Disk) (x : Handle) (hv : x.cfg.version = d.cfgVer) :
    (doMarkComplete d x).2.2 ≠ .err .versionMismatch := by
  unfold doMarkComplete
  split
  · exact resOf_ne_mismatch _ (serializeCfg_ok d _ hv)
  · simp

theorem doMarkCanceled_notStale (d : Disk) (x : Handle) (hv : x.cfg.version = d.cfgVer) :
    (doMarkCanceled d x).2.2 ≠ .err .versionMismatch :=
  resOf_ne_mismatch _ (serializeCfg_ok d _ hv)

theorem doCompleteHpcId_notStale (id : Nat) (d : Disk) (x : Handle)
    (hj : ∀ j : JsView, x.js = some j → j.version = d.jsVer) :
    (doCompleteHpcId id d x).2.2 ≠ .err .versionMismatch := by
  unfold doCompleteHpcId
  split
  · simp
  · next j hjs =>
    split
    · exact resOf_ne_mismatch _ (serializeJs_ok d _ _ (hj j hjs))
    · simp

theorem doPrepareResubmit_notStale (sel : List JobId) (bl : List (JobId × List JobId)) (d : Disk) (x : Handle)
    (hv : x.cfg.version = d.cfgVer) (hj : ∀ j : JsView, x.js = some j → j.version = d.jsVer) :
    (doPrepareResubmit sel bl d x).2.2 ≠ .err .versionMismatch := by
  unfold doPrepareResubmit
  split
  · split
    · simp
    · next j hjs =>
      rw [serializeBoth_ok _ _ _ (by exact hv) (by exact hj j hjs)]
      simp
  · simp

end Jade.Cluster
