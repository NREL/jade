import JadeModel.Model.Reports
import Mathlib.Order.Lattice
import Mathlib.Algebra.Group.Defs

/-!
The statistics of `Model/Reports.lean` in closed form, for samples from any linearly ordered type with an
associative addition with zero.  The generated update functions are generic in the number type, so these are
statements about the generated terms.  The laws of addition are asked for through core's `Std.Associative` and
`Std.LawfulIdentity`: `Int` (the instance the suite exercises) has them without any algebra import, and every
`AddMonoid` has them by the two lemmas at the end.
-/

namespace Jade.Reports
open Jade.Gen.Reports

section order
variable {α : Type} [LinearOrder α]

@[reducible] def IsMax (m : α) (xs : List α) : Prop := m ∈ xs ∧ ∀ x ∈ xs, x ≤ m
@[reducible] def IsMin (m : α) (xs : List α) : Prop := m ∈ xs ∧ ∀ x ∈ xs, m ≤ x

theorem foldl_max_isMax (a : α) (xs : List α) : IsMax (xs.foldl max a) (a :: xs) := by
  induction xs generalizing a with
  | nil => exact ⟨List.mem_cons_self, by simp⟩
  | cons y ys ih =>
    obtain ⟨hm, hle⟩ := ih (max a y)
    simp only [IsMax, List.foldl_cons, List.mem_cons, forall_eq_or_imp, sup_le_iff] at hm hle ⊢
    refine ⟨?_, hle.1.1, hle.1.2, hle.2⟩
    rcases hm with hm | hm
    · rw [hm]
      exact sup_ind (p := fun m => m = a ∨ m = y ∨ m ∈ ys) a y (Or.inl rfl) (Or.inr (Or.inl rfl))
    · exact .inr (.inr hm)

/-- `min` is `max` for the reversed order -/
theorem foldl_min_isMin (a : α) (xs : List α) : IsMin (xs.foldl min a) (a :: xs) :=
  foldl_max_isMax (α := αᵒᵈ) a xs

theorem IsMax.of_cons {m a : α} {xs : List α} (h : IsMax m (a :: xs)) (hne : xs ≠ []) (ha : ∀ x ∈ xs, a ≤ x) :
    IsMax m xs := by
  refine ⟨?_, fun x hx => h.2 x (List.mem_cons_of_mem _ hx)⟩
  rcases List.mem_cons.1 h.1 with rfl | hm
  · obtain ⟨y, hy⟩ := List.exists_mem_of_ne_nil xs hne
    rwa [← le_antisymm (h.2 y (List.mem_cons_of_mem _ hy)) (ha y hy)]
  · exact hm

theorem IsMin.of_cons {m a : α} {xs : List α} (h : IsMin m (a :: xs)) (hne : xs ≠ []) (ha : ∀ x ∈ xs, x ≤ a) :
    IsMin m xs :=
  IsMax.of_cons (α := αᵒᵈ) h hne ha

theorem foldl_max_eq_self (a : α) (xs : List α) (h : ∀ x ∈ xs, x ≤ a) : xs.foldl max a = a := by
  obtain ⟨hm, hle⟩ := foldl_max_isMax a xs
  rcases List.mem_cons.1 hm with hm | hm
  · exact hm
  · exact le_antisymm (h _ hm) (hle a List.mem_cons_self)

theorem foldl_min_eq_self (a : α) (xs : List α) (h : ∀ x ∈ xs, a ≤ x) : xs.foldl min a = a :=
  foldl_max_eq_self (α := αᵒᵈ) a xs h

end order

theorem procFirst_spec (v : Int) : procFirst v = { mx := v, mn := v, sm := v } := rfl

theorem sysInit_spec {α : Type} (z M : α) : sysInit z M = { mx := z, mn := M, sm := z } := rfl

section update
variable {α : Type} [LinearOrder α] [Add α]

theorem sysUpdate_spec (s : St α) (v : α) :
    sysUpdate s v = { mx := max s.mx v, mn := min s.mn v, sm := s.sm + v } := by
  unfold sysUpdate
  simp only []
  split <;> split <;> simp_all [not_lt, le_of_lt]

/-- the generated per-process update (if/elif): correct as long as `mn ≤ mx` -/
theorem procUpdate_spec (s : St α) (v : α) (h : s.mn ≤ s.mx) :
    procUpdate s v = { mx := max s.mx v, mn := min s.mn v, sm := s.sm + v } := by
  unfold procUpdate
  simp only []
  split
  · next hv =>
    have : s.mn ≤ v := le_of_lt (lt_of_le_of_lt h hv)
    simp_all [le_of_lt]
  · split <;> simp_all [not_lt, le_of_lt]

theorem procStep_some (s : Stats α) (v : α) (h : s.st.mn ≤ s.st.mx) :
    procStep (some s) v = some (statsUpdate s v) := by
  rw [procStep, statsUpdate, procUpdate_spec _ _ h, sysUpdate_spec]

theorem foldl_procStep (s : Stats α) (h : s.st.mn ≤ s.st.mx) (xs : List α) :
    xs.foldl procStep (some s) = some (xs.foldl statsUpdate s) := by
  induction xs generalizing s with
  | nil => rfl
  | cons x xs ih =>
    rw [List.foldl_cons, List.foldl_cons, procStep_some s x h, ih]
    rw [statsUpdate, sysUpdate_spec]
    exact le_trans inf_le_left (le_trans h le_sup_left)

end update

section sums
variable {α : Type} [LinearOrder α] [Add α] [Zero α]
  [Std.Associative (α := α) (· + ·)] [Std.LawfulIdentity (α := α) (· + ·) 0]

theorem foldl_statsUpdate (s : Stats α) (xs : List α) :
    xs.foldl statsUpdate s =
      { st := { mx := xs.foldl max s.st.mx, mn := xs.foldl min s.st.mn, sm := s.st.sm + xs.sum },
        count := s.count + xs.length } := by
  induction xs generalizing s with
  | nil => simp [Std.LawfulRightIdentity.right_id (op := (· + · : α → α → α))]
  | cons x xs ih =>
    rw [List.foldl_cons, ih]
    simp only [statsUpdate, sysUpdate_spec, List.foldl_cons, List.sum_cons, List.length_cons]
    rw [Std.Associative.assoc (op := (· + · : α → α → α)), Nat.add_assoc, Nat.add_comm 1]

theorem statsRun_spec (M : α) (xs : List α) :
    statsRun 0 M xs =
      { st := { mx := xs.foldl max 0, mn := xs.foldl min M, sm := xs.sum }, count := xs.length } := by
  rw [statsRun, foldl_statsUpdate]
  simp [statsInit, sysInit_spec, Std.LawfulLeftIdentity.left_id (op := (· + · : α → α → α))]

theorem procRun_spec (x : α) (xs : List α) :
    procRun (x :: xs) =
      some { st := { mx := xs.foldl max x, mn := xs.foldl min x, sm := x + xs.sum },
             count := 1 + xs.length } := by
  rw [procRun, List.foldl_cons, procStep, foldl_procStep _ (le_refl _), foldl_statsUpdate]
  rfl

end sums

section monoid
variable (α : Type) [AddMonoid α]

theorem addMonoid_associative : Std.Associative (α := α) (· + ·) := ⟨add_assoc⟩

theorem addMonoid_lawfulIdentity : Std.LawfulIdentity (α := α) (· + ·) 0 :=
  { left_id := zero_add, right_id := add_zero }

end monoid

end Jade.Reports
