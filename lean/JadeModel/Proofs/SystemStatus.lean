import JadeModel.Proofs.SystemGate
import JadeModel.Proofs.SystemRows
import JadeModel.Proofs.SystemStatusDefs

/-! # The persisted status at system level (C09)

`s.disk` is the abstract content of `cluster_config.json` + `job_status.json`.  Three families:

* `LocInv`, `Fwd` — ALL op sequences (every schedule, kill, failure, torn write): the role holder's
  in-memory copy is never behind the disk, hence every accepted event moves the disk only forward
  (`fwd_step`, `fwd_run`) and a submitted/done job has no remaining blockers (`LocInv.blkClear`).
* `DoneRow T` — every job marked done has a recorded result.  `T` says whether the second half of a torn
  `update_job_status` (`persistJobs`) may occur: with `T = False` (no `persistJobs` in the history, all
  other faults allowed) the statement is exact; with `T = True` (all ops) the exception is spelled out.
* (`Proofs/SystemStatusFlow0.lean`, `…FlowA/B.lean`, `Proofs/SystemStatusRun.lean`) `FlowA`/`FlowB`/`Counters` — fault-free op
  sequences (`Op.isFault = false`): completion "tokens" are unique (one row per job, collected
  once), hence the two counters are exactly the numbers of done and of submitted-or-done jobs.

Definitions: `SystemStatusDefs`.
 -/

namespace Jade.Sys

theorem locInv_step {s s' : Sys} {op : Op} (hr : RoleInv s) (hi : LocInv s) (h : Step s op s') : LocInv s' where
  cnt := by
    induction h <;> intro q a y hq <;> frame_simp at hq
    case persist | persistCfg | persistJobs => proc_cases at hq from hi.cnt <;> grind [→ hr.holder, holds, persistStatus]
    all_goals proc_cases at hq from hi.cnt <;> grind [holds, SubP.load]
  locDone := by
    induction h <;> intro q a y hq <;> frame_simp at hq
    case persist | persistCfg | persistJobs => proc_cases at hq from hi.locDone <;> grind [→ hr.holder, holds, persistStatus]
    all_goals proc_cases at hq from hi.locDone <;> grind [holds, SubP.load]
  locNs := by
    induction h <;> intro q a y hq <;> frame_simp at hq
    case persist | persistCfg | persistJobs => proc_cases at hq from hi.locNs <;> grind [→ hr.holder, holds, persistStatus]
    all_goals proc_cases at hq from hi.locNs <;> grind [holds, SubP.load]
  locBlk := by
    induction h <;> intro q a y hq <;> frame_simp at hq
    case persist | persistCfg | persistJobs => proc_cases at hq from hi.locBlk <;> grind [→ hr.holder, holds, persistStatus]
    all_goals proc_cases at hq from hi.locBlk <;> grind [holds, SubP.load]
  pendNs := by
    induction h <;> intro q a y hq <;> frame_simp at hq
    case passEnd hp hg => have := hi.pendPc _ _ _ hp; proc_cases at hq from hi.pendNs <;> grind
    all_goals proc_cases at hq from hi.pendNs <;> grind [SubP.load, persistStatus]
  pendPc := by
    induction h <;> intro q a y hq <;> frame_simp at hq
    all_goals proc_cases at hq from hi.pendPc <;> grind [SubP.load]
  blkClear := by
    have hc := hi.blkClear
    induction h <;> intro j <;> frame_goal <;> first | exact hc j | grind [persistStatus]

/-- the status a role holder writes is ahead of the disk, because its copy is never behind it -/
theorem fwd_persist {s : Sys} {p : Pid} {x : SubP} (hg : GateInv s) (hi : LocInv s)
    (hp : s.procs p = .sub true x) (hh : holds x.pc = true) : Fwd s.disk (persistStatus x) where
  stNs j := by have := hi.locNs p true x hp hh j; grind [persistStatus]
  stDone j := by have := hi.locDone p true x hp hh j; have := hi.pendNs p true x hp j; grind [persistStatus]
  blk j b := by have := hi.locBlk p true x hp hh j b; grind [persistStatus]
  sub := by have := hi.cnt p true x hp hh; grind [persistStatus]
  done := by have := hi.cnt p true x hp hh; grind [persistStatus]
  complete := by have := hg.flags p true x hp hh; grind [persistStatus]
  canceled := by have := hg.flags p true x hp hh; grind [persistStatus]

/-- every accepted event — faults included — moves the persisted status only forward -/
theorem fwd_step {s s' : Sys} {op : Op} (hg : GateInv s) (hi : LocInv s) (h : Step s op s') :
    Fwd s.disk s'.disk := by
  induction h
  case persist p x hp hpc => exact fwd_persist hg hi hp (by rw [hpc]; rfl)
  case persistCfg p x hp hpc =>
    have := fwd_persist hg hi hp (by rw [hpc]; rfl)
    exact { Fwd.refl s.disk with sub := this.sub, done := this.done }
  case persistJobs p x hp hpc =>
    have := fwd_persist hg hi hp (by rw [hpc]; rfl)
    exact { this with sub := Nat.le_refl _, done := Nat.le_refl _ }
  case flag | markCanceled => constructor <;> simp
  all_goals exact Fwd.refl _

theorem tornCancel_step {s s' : Sys} {op : Op}
    (hd : ∀ q a y, s.procs q = .sub a y → y.toCancel ≠ [] → y.pc = .collecting ∨ y.pc = .failing ∨ y.pc = .gone)
    (h : Step s op s') (j : JobId) (ht : TornCancel s j) : TornCancel s' j ∨ HasRow s' j := by
  obtain ⟨q, a, y, hq, hj⟩ := ht
  replace hd := hd q a y hq (List.ne_nil_of_mem hj)
  unfold TornCancel
  induction h
  case cancelRow p x k rest hp ht hg =>
    have : HasRow _ k := newRow_step (.cancelRow hp ht hg)
    frame_goal
    grind
  all_goals
    frame_goal
    grind [SubP.load]

/-- the two clauses of `DoneRow` about rows, with the rows and the pending decisions of `s` carried over to `s'` -/
theorem doneRow_carry {T : Prop} {s s' : Sys} {op : Op} (hi : DoneRow T s) (h : Step s op s') :
    (∀ q a y, s.procs q = .sub a y → holds y.pc = true → ∀ j, y.loc.st j = .done →
      HasRow s' j ∨ j ∈ y.toCancel ∨ (T ∧ TornCancel s' j)) ∧
    (∀ j, s.disk.st j = .done → HasRow s' j ∨ (T ∧ TornCancel s' j)) := by
  have := hasRow_step h; have := tornCancel_step hi.toCancelPc h; have := hi.locRow; have := hi.diskRow
  constructor <;> grind

theorem doneRow_step {T : Prop} {s s' : Sys} {op : Op} (hb : BlockInv s) (hi : DoneRow T s)
    (hT : tornOk T op) (h : Step s op s') : DoneRow T s' where
  toCancelPc := by
    induction h <;> intro q a y hq <;> frame_simp at hq
    all_goals proc_cases at hq from hi.toCancelPc <;> grind [SubP.load]
  locRow := by
    have hmono := hasRow_step h
    have hnew : ∀ p k, op = .cancelRow p k → HasRow s' k := by rintro p k rfl; exact newRow_step h
    obtain ⟨hc, hd⟩ := doneRow_carry hi h
    -- `s'` only through its rows `R` and pending decisions `C`
    generalize TornCancel s' = C at *
    generalize HasRow s' = R at *
    induction h <;> intro q a y hq <;> frame_simp at hq
    case spawnSub | promote | promoteDone | scancel => grind [holds, SubP.load]
    case cancelRow => have := hnew _ _ rfl; grind
    case persist p x hp hg | persistJobs p x hp hg =>
      have := (hb.seen p true x hp (by rw [hg]; rfl)).2
      grind [holds, persistStatus]
    all_goals proc_cases at hq from hc <;> grind [holds]
  diskRow := by
    have hmono := hasRow_step h
    have htc := tornCancel_step hi.toCancelPc h
    have hc := (doneRow_carry hi h).2
    induction h <;> intro j <;> frame_goal
    -- a job newly marked done was collected (it has a row) or was done in the writer's copy; in the
    -- latter case a still pending cancel decision is possible only in `persistJobs`
    case persist p x hp hg | persistJobs p x hp hg =>
      have hh : holds x.pc = true := by rw [hg]; rfl
      have := hi.locRow p true x hp hh; have := hi.toCancelPc p true x hp; have := (hb.seen p true x hp hh).2
      have hself : ∀ j ∈ x.toCancel, TornCancel s j := fun j hj => ⟨p, true, x, hp, hj⟩
      grind [persistStatus, tornOk]
    all_goals first | exact hc j | grind

/-- the all-ops invariants of this file together with the ones they rest on -/
structure StatusAll (T : Prop) (s : Sys) : Prop where
  gate : GateInv s
  block : BlockInv s
  loc : LocInv s
  rows : DoneRow T s

theorem statusAll_init (T : Prop) (sc : Scn) : StatusAll T (init sc) :=
  ⟨gateInv_init sc, blockInv_init sc, locInv_init sc, doneRow_init T sc⟩

theorem statusAll_step {T : Prop} {s s' : Sys} {op : Op} (hi : StatusAll T s) (hT : tornOk T op)
    (h : Step s op s') : StatusAll T s' :=
  ⟨gateInv_step hi.gate h, blockInv_step hi.block h,
   locInv_step hi.gate.role hi.loc h, doneRow_step hi.block hi.rows hT h⟩

theorem statusAll_run {T : Prop} {s s' : Sys} (ops : List Op) (hi : StatusAll T s) (hT : ∀ op ∈ ops, tornOk T op)
    (h : run s ops = some s') : StatusAll T s' :=
  run_inv_of statusAll_step ops hi hT h

/-- every continuation of a state satisfying the invariants moves the persisted status only forward -/
theorem fwd_run {s s' : Sys} (ops : List Op) (hi : StatusAll True s) (h : run s ops = some s') :
    Fwd s.disk s'.disk :=
  (run_inv_of (P := fun t => StatusAll True t ∧ Fwd s.disk t.disk)
    (fun ht hT hs => ⟨statusAll_step ht.1 hT hs, ht.2.trans (fwd_step ht.1.gate ht.1.loc hs)⟩)
    ops ⟨hi, Fwd.refl _⟩ (tornOk_true ops) h).2

end Jade.Sys
