import JadeModel.Proofs.SystemStatusFlow
import JadeModel.Proofs.SystemNode

/-! Fault-free histories (C09): the counters, lifting to runs. -/

namespace Jade.Sys

/-- the two counters of `cluster_config.json` are the numbers of done / submitted-or-done jobs of `job_status.json` -/
structure Counters (s : Sys) : Prop where
  done : s.disk.doneCnt = cntDone s.sc.n s.disk.st
  sub : s.disk.subCnt = cntSub s.sc.n s.disk.st

theorem counters_init (sc : Scn) : Counters (init sc) := by
  constructor
  · show 0 = (List.range sc.n).countP (fun _ => JSt.ns == JSt.done)
    rw [eq_comm, List.countP_eq_zero]; intro j _; decide
  · show 0 = (List.range sc.n).countP (fun _ => JSt.ns != JSt.ns)
    rw [eq_comm, List.countP_eq_zero]; intro j _; decide

/-- `update_job_status` at the end of a fault-free round keeps the counters exact -/
theorem counters_persist {s : Sys} (hl : LocInv s) (ha : FlowA s) (hb : FlowB s) (hc : Counters s)
    {p : Pid} {x : SubP} (hp : s.procs p = .sub true x) (hpc : x.pc = .marked) :
    (persistStatus x).doneCnt = cntDone s.sc.n (persistStatus x).st ∧
    (persistStatus x).subCnt = cntSub s.sc.n (persistStatus x).st := by
  have hh : holds x.pc = true := by rw [hpc]; rfl
  refine persist_counts s.sc.n s.disk x hc.done hc.sub (hl.cnt p true x hp hh) (hb.locEq p true x hp hh) ?_
    (hb.cancelsNd p true x hp) ?_ (ha.newlyNd p true x hp) ?_ (hb.pendNd p true x hp)
  · intro j hj
    obtain ⟨c1, c2, c3⟩ := hb.cancelsSt p true x hp j hj
    exact ⟨c1, c2, c3, hb.cancels_newly hp (by simp [hpc]) j hj⟩
  · intro j hj
    refine ⟨hb.newlySt p true x hp j hj, ?_⟩
    obtain ⟨r, hr', hjr⟩ := ha.newlyProc p true x hp j hj
    exact ha.rowLt j (Or.inl ⟨r, hr', hjr⟩)
  · intro j hj
    exact ⟨hl.pendNs p true x hp j hj, hb.pendLt p true x hp j hj⟩

theorem counters_step {s s' : Sys} {op : Op} (hl : LocInv s) (ha : FlowA s) (hb : FlowB s)
    (hc : Counters s) (hop : op.isFault = false) (h : Step s op s') : Counters s' := by
  induction h <;> (try cases hop)
  case persist hp hg => exact ⟨(counters_persist hl ha hb hc hp hg).1, (counters_persist hl ha hb hc hp hg).2⟩
  all_goals exact ⟨hc.done, hc.sub⟩

/-- everything that holds in fault-free histories -/
structure Flow (s : Sys) : Prop where
  node : NodeInv s
  loc : LocInv s
  a : FlowA s
  b : FlowB s
  counters : Counters s

theorem flow_init (sc : Scn) : Flow (init sc) :=
  ⟨nodeInv_init sc, locInv_init sc, flowA_init sc, flowB_init sc, counters_init sc⟩

theorem flow_step {s s' : Sys} {op : Op} (hi : Flow s) (hop : op.isFault = false) (h : Step s op s') : Flow s' :=
  ⟨nodeInv_step hi.node h, locInv_step hi.node.batch.role hi.loc h,
   flowA_step hi.node hi.loc hi.a hi.b hop h, flowB_step hi.node hi.a hi.b hop h,
   counters_step hi.loc hi.a hi.b hi.counters hop h⟩

theorem flow_run {s s' : Sys} (ops : List Op) (hi : Flow s) (hp : plainOps ops) (h : run s ops = some s') :
    Flow s' :=
  run_inv_of (G := fun op => op.isFault = false) flow_step ops hi hp h

/-- every fault-free history of every scenario, under every schedule -/
theorem flow_reach (sc : Scn) (ops : List Op) (s : Sys) (hp : plainOps ops) (h : run (init sc) ops = some s) :
    Flow s :=
  flow_run ops (flow_init sc) hp h

/-- a crash between the two file writes of `update_job_status`, completed later by the second write,
    leaves exactly the status an uninterrupted `update_job_status` writes -/
theorem torn_pair_eq_persist {s s1 s2 : Sys} {p : Pid} (h1 : step s (.persistCfg p) = some s1)
    (h2 : step s1 (.persistJobs p) = some s2) : ∃ s3, step s (.persist p) = some s3 ∧ s2.disk = s3.disk := by
  cases step_sound h1 with
  | persistCfg hp hg =>
    refine ⟨_, step_complete (.persist hp hg), ?_⟩
    cases step_sound h2 with
    | persistJobs hp2 hg2 =>
      simp only [procs_setSub, if_true, Proc.sub.injEq, true_and] at hp2
      subst hp2
      simp [setSub, setProc, persistStatus]

end Jade.Sys
