import JadeModel.Proofs.Queue
import JadeModel.Proofs.SystemOutcome

/-!
The node-level / local-mode reference (`Jade.Queue.ref`, over the job list handed to one `JobQueue`)
and the system-level reference (`Jade.Ref.ref`, over the scenario's dependency graph) are the same
function when the queue is given the whole configuration — which is exactly what local mode does.
Hence local mode and HPC mode record the same outcome for every job (C03).
-/

namespace Jade.RefBridge
open Jade.Queue Jade.Gen.Queue Jade.Sys

/-- the whole configuration as the job list of one queue (local mode) -/
def jobsOf (sc : Scn) : List Job :=
  (List.range sc.n).map fun j => { id := j, blockers := sc.blockers j, cancelFlag := sc.flag j }

/-- a system-level outcome in the queue's (code, status) form -/
def toPair (o : Jade.Ref.Outcome) : Int × RowStatus :=
  if o.canceled then (cancelRc, cancelStatus) else (o.rc, completeStatus)

theorem find_jobsOf (sc : Scn) (j : JobId) (hj : j < sc.n) :
    (jobsOf sc).find? (fun x => x.id == j) = some { id := j, blockers := sc.blockers j, cancelFlag := sc.flag j } := by
  have hmem : ({ id := j, blockers := sc.blockers j, cancelFlag := sc.flag j } : Job) ∈ jobsOf sc := by
    simp only [jobsOf, List.mem_map, List.mem_range]
    exact ⟨j, hj, rfl⟩
  have hn : ((jobsOf sc).map (·.id)).Nodup := by
    have : (jobsOf sc).map (·.id) = List.range sc.n := by
      simp [jobsOf, List.map_map, Function.comp_def]
    rw [this]; exact List.nodup_range
  exact find_id hn hmem

theorem isBad_toPair (o : Jade.Ref.Outcome) (h : o.canceled = true → o.rc = 1) : isBad (toPair o) = o.bad := by
  unfold toPair isBad Jade.Ref.Outcome.bad failedCode cancelRc cancelStatus completeStatus
  cases hc : o.canceled <;> simp [hc]

/-- round by round the two evaluations agree on configured jobs -/
theorem refOutcome_eq (sc : Scn) (hin : ∀ j, j < sc.n → ∀ b ∈ sc.blockers j, b < sc.n) :
    ∀ (k : Nat) (j : JobId), j < sc.n →
      refOutcome (jobsOf sc) sc.rc k j = toPair (Jade.Ref.refN sc.graph k j) ∧
      ((Jade.Ref.refN sc.graph k j).canceled = true → (Jade.Ref.refN sc.graph k j).rc = 1) := by
  intro k
  induction k with
  | zero => intro j _; simp [refOutcome, Jade.Ref.refN, toPair, Scn.graph]
  | succ k ih =>
    intro j hj
    simp only [refOutcome, find_jobsOf sc j hj, Jade.Ref.refN, Jade.Ref.evalJob]
    have hany : (sc.blockers j).any (fun b => isBad (refOutcome (jobsOf sc) sc.rc k b)) =
        (sc.graph.blockers j).any (fun b => (Jade.Ref.refN sc.graph k b).bad) := by
      show (sc.blockers j).any _ = (sc.blockers j).any _
      rw [Bool.eq_iff_iff]
      simp only [List.any_eq_true]
      refine exists_congr fun b => and_congr_right fun hb => ?_
      have := ih b (hin j hj b hb)
      rw [this.1, isBad_toPair _ this.2]
    rw [hany]
    simp only [Scn.graph]
    rcases Bool.eq_false_or_eq_true (sc.flag j && (sc.blockers j).any fun b =>
      (Jade.Ref.refN { n := sc.n, blockers := sc.blockers, flag := sc.flag, rc := sc.rc } k b).bad) with hc | hc <;>
      simp [hc, toPair]

/-- **local mode = HPC mode**: the reference outcome the queue theorems speak about (`Jade.Queue.ref` on the
    whole configuration) is the reference outcome the system theorems speak about (`Jade.Ref.ref`) -/
theorem ref_eq (sc : Scn) (hin : ∀ j, j < sc.n → ∀ b ∈ sc.blockers j, b < sc.n) (j : JobId) (hj : j < sc.n) :
    Jade.Queue.ref (jobsOf sc) sc.rc j = toPair (Jade.Ref.ref sc.graph j) := by
  have hlen : (jobsOf sc).length = sc.n := by simp [jobsOf]
  unfold Jade.Queue.ref Jade.Ref.ref
  rw [hlen]
  exact (refOutcome_eq sc hin sc.n j hj).1

end Jade.RefBridge
