import JadeModel.Model.ClusterLive
import JadeModel.Proofs.ClusterCrash

/-!
Failed calls whose handle lives on, and calls stalled inside the lock section (`Model/ClusterLive.lean`).
-/

namespace Jade.Cluster
open Jade.Gen.Cluster

/-! ## a held lock excludes every call that takes it -/

theorem locked_held (s : Sys) (h : Hid) (f : Disk → Handle → Out) (hm : s.disk.marker = true) :
    locked s h f = (s, .err .lockTimeout) ∨ locked s h f = (s, .noHandle) := by
  rcases locked_cases s h f with ⟨_, h2⟩ | ⟨_, _, _, h2⟩ | ⟨_, _, hf, _⟩
  · exact Or.inr h2
  · exact Or.inl h2
  · rw [hm] at hf; cases hf

/-- an API call that takes the cluster lock while the lock file is present: `filelock.Timeout`, nothing changes -/
theorem step_locked_out (s : Sys) (op : Op) (hm : s.disk.marker = true) (hl : op.takesLock = true) :
    step s op = (s, .err .lockTimeout) ∨ step s op = (s, .noHandle) := by
  cases op with
  | load | read => left; simp [step, loadOp, hm]
  | prepareResubmit | breakMarker | forgeCfgVer | forgeJsVer | rmCfg | memCancel | memUnblock => cases hl
  | _ => exact locked_held s _ _ hm

theorem unmask_mask (t : TSys) (m : Nat × Nat) : unmaskDisk t (maskDisk t m) = t.s.disk := by
  cases hc : t.cfgVerTorn <;> cases hj : t.jsVerTorn <;> simp [unmaskDisk, maskDisk, hc, hj]

theorem Op.takesLock_notTamper (op : Op) (hl : op.takesLock = true) : op.isTamper = false := by
  cases op <;> first | rfl | cases hl

/-- … also when version files are empty -/
theorem apiT_locked_out (t : TSys) (op : Op) (hm : t.s.disk.marker = true) (hl : op.takesLock = true) :
    apiT t op = (t, .err .lockTimeout) ∨ apiT t op = (t, .noHandle) := by
  rw [apiT_api t op (op.takesLock_notTamper hl)]
  rcases step_locked_out { t.s with disk := maskDisk t (op.mine t.s) } op hm hl with h | h <;> rw [h]
  · exact Or.inl (by simp [unmask_mask, tornRes, compareRaised])
  · exact Or.inr (by simp [unmask_mask, tornRes, compareRaised])

theorem writesOf_self (d : Disk) : writesOf d d = [] := by
  simp [writesOf, cfgPairChanged, jsPairChanged]

/-- a call that leaves the state alone writes no file: no kill point, failing write or stall point in it is reached -/
theorem apiT_noop {t : TSys} {op : Op} {r : Res} (h : apiT t op = (t, r)) :
    (∀ (k : Nat) (g torn : Bool), crashT t op k g torn = (t, some r)) ∧
    ∀ (k : Nat) (torn : Bool), failT t op k torn = (t, r) := by
  simp [crashT, failT, h, writesOf_self]

theorem stallBeginF_noop {f : FSys} {op : Op} {r : Res} (h : apiT f.t op = (f.t, r)) (k : Nat) :
    stallBeginF f op k = (f, .res r) := by
  simp [stallBeginF, h, writesOf_self]

/-! ## a parked call keeps the lock file: nothing but the lock library's stale-marker removal deletes a marker -/

/-- no API call removes a lock file that is present when the call starts (only `breakMarker` - the lock library - does) -/
theorem step_keeps_marker (s : Sys) (op : Op) (hm : s.disk.marker = true) (hb : op ≠ .breakMarker) :
    (step s op).1.disk.marker = true := by
  by_cases hl : op.takesLock = true
  · rcases step_locked_out s op hm hl with h | h <;> rw [h] <;> exact hm
  · cases op with
    | prepareResubmit h sel bl =>
      simp only [step, resubmitLocked_eq, Bool.false_eq_true, if_false]
      rcases unlocked_cases s h (doPrepareResubmit sel bl) with ⟨_, h2⟩ | ⟨x, _, h2⟩ <;> rw [h2]
      · exact hm
      · exact (doPrepareResubmit_eff sel bl s.disk x).1.marker.trans hm
    | breakMarker => exact absurd rfl hb
    | forgeCfgVer | forgeJsVer | rmCfg => exact hm
    | memCancel | memUnblock => simp only [step]; rw [memJob_disk]; exact hm
    | _ => exact absurd rfl hl

theorem apiT_keeps_marker (t : TSys) (op : Op) (hm : t.s.disk.marker = true) (hb : op ≠ .breakMarker) :
    (apiT t op).1.s.disk.marker = true := by
  cases hnt : op.isTamper
  · rw [apiT_api t op hnt]
    exact step_keeps_marker { t.s with disk := maskDisk t (op.mine t.s) } op hm hb
  · cases op <;> simp [Op.isTamper] at hnt <;> simpa [apiT, step, maskDisk, unmaskDisk] using hm

theorem crashT_keeps_marker (t : TSys) (op : Op) (k : Nat) (g torn : Bool) (hm : t.s.disk.marker = true)
    (hb : op ≠ .breakMarker) : (crashT t op k g torn).1.s.disk.marker = true := by
  by_cases hl : op.takesLock = true
  · rcases apiT_locked_out t op hm hl with h | h <;> rw [(apiT_noop h).1] <;> exact hm
  · simp only [crashT]
    split
    · simp [hm]
    · exact apiT_keeps_marker t op hm hb

theorem failT_keeps_marker (t : TSys) (op : Op) (k : Nat) (torn : Bool) (hm : t.s.disk.marker = true) (hb : op ≠ .breakMarker) :
    (failT t op k torn).1.s.disk.marker = true := by
  simp only [failT]
  split
  · exact apiT_keeps_marker t op hm hb
  · cases op.takesLock <;> simp [hm, markerAfter, Res.isExc, markerAfterException_eq]

theorem stepF_cases (f : FSys) (fop : FOp) :
    stepF f fop = (f, .busy) ∨ (fop.call = some .breakMarker ∧ stepF f fop = (f, .res .disabled)) ∨
    ((∀ op : Op, fop.call = some op → f.pending.isSome = true → op ≠ .breakMarker) ∧
      stepF f fop = match fop with
        | .base top => ({ f with t := (stepT f.t top).1 }, FRes.ofT (stepT f.t top).2)
        | .failWrite op k torn => ({ f with t := (failT f.t op k torn).1 }, .res (failT f.t op k torn).2)
        | .stallBegin op k => stallBeginF f op k
        | .stallEnd => stallEndF f) := by
  cases hc : fop.call with
  | none =>
    cases fop with
    | base top => cases top <;> cases hc
    | failWrite | stallBegin => cases hc
    | stallEnd => exact Or.inr (Or.inr ⟨fun _ h => (nomatch h), rfl⟩)
  | some op =>
    cases hb : f.busy op
    · by_cases hbm : (decide (op = .breakMarker) && f.pending.isSome) = true
      · obtain ⟨rfl, hp⟩ : op = .breakMarker ∧ f.pending.isSome = true := by simpa using hbm
        exact Or.inr (Or.inl ⟨rfl, by simp [stepF, hc, hb, hp]⟩)
      · refine Or.inr (Or.inr ⟨fun op' h hp e => hbm (by simp_all), ?_⟩)
        cases fop <;> simp_all [stepF, FOp.call]
    · exact Or.inl (by simp [stepF, hc, hb])

/-- the lock file of a parked call is present -/
@[reducible] def Held (f : FSys) : Prop := f.pending.isSome = true → f.t.s.disk.marker = true

/-- INVARIANT of the extended system: while a call is parked inside the lock section its lock file is present - no API
    call, kill, failing write or second stall removes it (the lock library's removal of STALE markers does not apply to it). -/
theorem stepF_held (f : FSys) (fop : FOp) (hH : Held f) : Held (stepF f fop).1 := by
  rcases stepF_cases f fop with h | ⟨_, h⟩ | ⟨hnb, h⟩ <;> rw [h]
  · exact hH
  · exact hH
  · cases fop with
    | base top =>
      intro hp
      cases top with
      | api op => exact apiT_keeps_marker f.t op (hH hp) (hnb op rfl hp)
      | crash op k g torn => exact crashT_keeps_marker f.t op k g torn (hH hp) (hnb op rfl hp)
    | failWrite op k torn => exact fun hp => failT_keeps_marker f.t op k torn (hH hp) (hnb op rfl hp)
    | stallBegin op k =>
      simp only [stallBeginF]
      split
      · exact fun _ => rfl
      · exact fun hp => apiT_keeps_marker f.t op (hH hp) (hnb op rfl hp)
    | stallEnd =>
      simp only [stallEndF]
      split
      · exact hH
      · exact fun h => nomatch h

theorem execF_held (ops : List FOp) (f : FSys) (h : Held f) : Held (execF f ops) :=
  List.foldlRecOn ops _ h fun f h op _ => stepF_held f op h

/-! ## a failed write never leaves a handle AHEAD of a version file (the repaired `_serialize` / `_serialize_jobs`) -/

/-- the handler `except Exception: self._config.version -= 1; raise` -/
theorem cfgVersionAfterFailedWrite_eq (v : Nat) : (cfgVersionAfterFailedWrite v).toNat = v - 1 := by
  simp only [cfgVersionAfterFailedWrite]; omega

theorem jsVersionAfterFailedWrite_eq (v : Nat) : (jsVersionAfterFailedWrite v).toNat = v - 1 := by
  simp only [jsVersionAfterFailedWrite]; omega

theorem tornDisk_at (d d' : Disk) (k : Nat) (f : FileId) (hk : (writesOf d d')[k]? = some f) :
    (f ≠ .cfgVer → (tornDisk d d' k).cfgVer = d'.cfgVer) ∧ (f = .js → (tornDisk d d' k).jsVer = d'.jsVer) := by
  unfold tornDisk
  unfold writesOf at hk ⊢
  rw [cfgWriteOrder_eq, jsWriteOrder_eq] at hk ⊢
  cases hc : cfgPairChanged d d' <;> cases hj : jsPairChanged d d' <;> simp only [hc, hj] at hk ⊢ <;>
    rcases k with _ | _ | _ | _ | k <;> simp [writeFile] at hk ⊢ <;> subst hk <;> simp_all [cfgPairChanged]

theorem restoreJsVersion_some (x x' : Handle) (j'' : JsView) (h : restoreJsVersion x x' = some j'') :
    ∃ j : JsView, x.js = some j ∧ j''.version = j.version := by
  unfold restoreJsVersion at h
  cases hx : x.js with
  | none => simp [hx] at h
  | some j =>
    simp only [hx, Option.map_eq_some_iff] at h
    obtain ⟨j', _, e⟩ := h
    exact ⟨j, rfl, by rw [← e]⟩

/-- `x` the handle before the call, `x'` the handle the completed call would have left.  A failed write of a version file
    finds the bump rolled back; at a later write the version file holds the bumped number already. -/
theorem failedHandle_le {d d' : Disk} {k : Nat} {f : FileId} {x x' : Handle} (hs : DiskStep d d')
    (hk : (writesOf d d')[k]? = some f) (hcv : d.cfgVer ≤ (tornDisk d d' k).cfgVer) (hjv : d.jsVer ≤ (tornDisk d d' k).jsVer)
    (hx : ∀ j : JsView, x.js = some j → j.version ≤ d.jsVer) (hx' : x'.cfg.version ≤ d'.cfgVer)
    (hx'j : ∀ j : JsView, x'.js = some j → j.version ≤ d'.jsVer) :
    (failedHandle x x' f).cfg.version ≤ (tornDisk d d' k).cfgVer ∧
    ∀ j : JsView, (failedHandle x x' f).js = some j → j.version ≤ (tornDisk d d' k).jsVer := by
  obtain ⟨t1, t2⟩ := tornDisk_at d d' k f hk
  have hc1 : d'.cfgVer ≤ d.cfgVer + 1 := by rcases hs.1 with ⟨_, a, _⟩ | ⟨a, _⟩ <;> omega
  have hj1 : d'.jsVer ≤ d.jsVer + 1 := by rcases hs.2 with ⟨_, a⟩ | ⟨a, _⟩ <;> omega
  have restored : ∀ j : JsView, restoreJsVersion x x' = some j → j.version ≤ (tornDisk d d' k).jsVer := by
    intro j hj
    obtain ⟨j0, hj0, e⟩ := restoreJsVersion_some x x' j hj
    rw [e]; exact Nat.le_trans (hx j0 hj0) hjv
  cases f with
  | cfgVer =>
    refine ⟨?_, restored⟩
    simp only [failedHandle, cfgVersionAfterFailedWrite_eq]
    omega
  | cfg => exact ⟨by rw [t1 (by simp)]; exact hx', restored⟩
  | jsVer =>
    refine ⟨by rw [t1 (by simp)]; exact hx', fun j hj => ?_⟩
    simp only [failedHandle, Option.map_eq_some_iff] at hj
    obtain ⟨j', hj', rfl⟩ := hj
    have := hx'j j' hj'
    simp only [jsVersionAfterFailedWrite_eq]
    omega
  | js => exact ⟨by rw [t1 (by simp)]; exact hx', fun j hj => by rw [t2 rfl]; exact hx'j j hj⟩

/-- `VerAhead` (no version file behind its data file, NO HANDLE AHEAD OF A VERSION FILE) survives a failed write at any
    point of any API call: the handle whose version-file write failed holds the on-disk version again, the handle whose
    data-file write failed holds the version the version file has. -/
theorem failT_verAhead {s : Sys} (hI : VerAhead s) (op : Op) (k : Nat) (hnt : op.isTamper = false) :
    VerAhead (failT (TSys.ofSys s) op k false).1.s ∧
    (failT (TSys.ofSys s) op k false).1 = TSys.ofSys (failT (TSys.ofSys s) op k false).1.s := by
  have hstep := hI.step op hnt
  have hds := step_diskStep s op hnt
  have ha : apiT { s := s, cfgVerTorn := false, jsVerTorn := false } op =
      ({ s := (step s op).1, cfgVerTorn := false, jsVerTorn := false }, (step s op).2) := apiT_ofSys s op
  unfold failT
  simp only [TSys.ofSys, ha]
  cases hk : (writesOf s.disk (step s op).1.disk)[k]? with
  | none => exact ⟨hstep, rfl⟩
  | some f =>
    refine ⟨?_, by simp⟩
    obtain ⟨b1, b2, b3, b4⟩ := tornDisk_bounds s.disk (step s op).1.disk k hds hI.cfgData hI.jsData
    refine hI.of_le b1 b2 b3 b4 fun q y hy => ?_
    cases ha : op.actor with
    | none => simp only [ha] at hy; exact Or.inl hy
    | some h =>
      cases hx : s.handles h with
      | none => simp only [ha, hx] at hy; exact Or.inl hy
      | some x =>
        cases hx' : (step s op).1.handles h with
        | none => simp only [ha, hx, hx'] at hy; exact Or.inl hy
        | some x' =>
          simp only [ha, hx, hx'] at hy
          split at hy
          · cases hy
            exact Or.inr (failedHandle_le hds hk b3 b4 (fun j => hI.jsHandle h x j hx) (hstep.cfgHandle h x' hx')
              (fun j => hstep.jsHandle h x' j hx'))
          · exact Or.inl hy

/-! ## without a parked call the extended system runs the calls of the plain one -/

theorem stepF_base (t : TSys) (op : TOp) :
    stepF (FSys.ofT t) (.base op) = (FSys.ofT (stepT t op).1, FRes.ofT (stepT t op).2) := by
  cases op <;> simp [stepF, FOp.call, FSys.busy, FSys.ofT]

theorem stepF_failWrite (t : TSys) (op : Op) (k : Nat) (torn : Bool) :
    stepF (FSys.ofT t) (.failWrite op k torn) = (FSys.ofT (failT t op k torn).1, .res (failT t op k torn).2) := by
  simp [stepF, FOp.call, FSys.busy, FSys.ofT]

theorem execF_base (ops : List TOp) (t : TSys) : execF (FSys.ofT t) (ops.map FOp.ofT) = FSys.ofT (execT t ops) := by
  rw [execF, List.foldl_map]
  exact List.foldl_hom FSys.ofT fun t op => by rw [FOp.ofT, stepF_base]

theorem runF_base : ∀ (ops : List TOp) (t : TSys), (runF (FSys.ofT t) (ops.map FOp.ofT)).2 = (runT t ops).2.map FRes.ofT := by
  intro ops
  induction ops with
  | nil => intro t; rfl
  | cons op ops ih =>
    intro t
    simp only [List.map_cons, runF, runT, FOp.ofT]
    rw [stepF_base]
    simp only [ih]

/-- an API call in the extended system when no call is parked and no version file is empty: exactly `step` -/
theorem stepF_idle_api (f : FSys) (op : Op) (hp : f.pending = none) (hc : f.t.cfgVerTorn = false) (hj : f.t.jsVerTorn = false) :
    stepF f (.base (.api op)) = (FSys.ofT (TSys.ofSys (step f.t.s op).1), .res (step f.t.s op).2) := by
  obtain ⟨⟨s, c, j⟩, p⟩ := f
  subst hp hc hj
  show stepF (FSys.ofT (TSys.ofSys s)) (.base (.api op)) = _
  simp only [stepF_base, stepT, apiT_ofSys, FRes.ofT]

/-! ## histories of API calls, kills between file writes and failed writes -/

/-- an API call, a kill right before a file write, a failing file write (no stalls, no truncated version files) -/
def FOp.plain : FOp → Bool
  | .base (.api _) => true
  | .base (.crash _ _ _ torn) => !torn
  | .failWrite _ _ torn => !torn
  | _ => false

/-- no call parked, no version file empty, and `VerAhead` -/
structure PlainAhead (f : FSys) : Prop where
  idle : f.pending = none
  plain : f.t = TSys.ofSys f.t.s
  ahead : VerAhead f.t.s

theorem PlainAhead.ofSys {s : Sys} (hI : VerAhead s) : PlainAhead (FSys.ofT (TSys.ofSys s)) := ⟨rfl, rfl, hI⟩

theorem PlainAhead.eq {f : FSys} (hP : PlainAhead f) : f = FSys.ofT (TSys.ofSys f.t.s) := by
  obtain ⟨t, p⟩ := f
  obtain ⟨hi, hpl, _⟩ := hP
  simp only at hi hpl
  subst hi
  exact congrArg FSys.ofT hpl

theorem stepF_plainAhead (f : FSys) (hP : PlainAhead f) (fop : FOp) (hp : fop.plain = true) (hnt : fop.isTamper = false) :
    PlainAhead (stepF f fop).1 := by
  obtain ⟨s, rfl⟩ : ∃ s : Sys, f = FSys.ofT (TSys.ofSys s) := ⟨_, hP.eq⟩
  have hI : VerAhead s := hP.ahead
  cases fop with
  | stallEnd | stallBegin => cases hp
  | failWrite op k torn =>
    obtain rfl : torn = false := by simpa [FOp.plain] using hp
    rw [stepF_failWrite]
    obtain ⟨a, b⟩ := failT_verAhead hI op k hnt
    exact ⟨rfl, b, a⟩
  | base top =>
    obtain ⟨xop, rfl, hx⟩ : ∃ xop : XOp, top = TOp.ofX xop ∧ xop.isTamper = false := by
      cases top with
      | api op => exact ⟨.api op, rfl, hnt⟩
      | crash op k g torn =>
        obtain rfl : torn = false := by simpa [FOp.plain] using hp
        exact ⟨.crash op k g, rfl, hnt⟩
    rw [stepF_base, stepT_ofSys]
    exact .ofSys (hI.stepX xop hx)

theorem execF_plainAhead (ops : List FOp) (f : FSys) (h : PlainAhead f)
    (hall : ∀ op ∈ ops, op.plain = true ∧ op.isTamper = false) : PlainAhead (execF f ops) :=
  List.foldlRecOn ops _ h fun f h op hop => stepF_plainAhead f h op (hall op hop).1 (hall op hop).2

theorem PlainAhead.create (host : Host) (spec : List (List JobId × Bool)) (brk : Bool) :
    PlainAhead (FSys.ofT (TSys.ofSys (Jade.Cluster.create host spec brk))) :=
  .ofSys (VerAhead.create host spec brk)

end Jade.Cluster
