import JadeModel.Model.Slurm

/-! Helper lemmas for C18 (SLURM boundary). -/

namespace Jade.Slurm
open Jade.Gen.Slurm

/-- The words the generated table maps to COMPLETE. -/
def completeWords : List String :=
  (statuses.filter (fun p => p.2 == "COMPLETE")).map (·.1)

theorem lookup_mem {α β} [BEq α] [LawfulBEq α] (l : List (α × β)) (k : α) (v : β)
    (h : l.lookup k = some v) : (k, v) ∈ l := by
  obtain ⟨l₁, l₂, rfl, -⟩ := List.lookup_eq_some_iff.1 h
  simp

theorem statusOf_mem_or_default (w : String) : (w, statusOf w) ∈ statuses ∨ statusOf w = statusDefault := by
  unfold statusOf
  split
  · next s hs => exact .inl (lookup_mem _ _ _ hs)
  · exact .inr rfl

/-! ### parseLines characterisation -/

theorem parseLines_ok_iff (ls : List (List Char)) (ps : List (String × String)) :
    parseLines ls = .ok ps ↔
      (ls.filterMap parseLine) = ps.map (fun p => Except.ok p) := by
  induction ls generalizing ps with
  | nil => cases ps <;> simp [parseLines]
  | cons l ls ih =>
    simp only [parseLines, List.filterMap_cons]
    rcases parseLine l with _ | e | q
    · simpa using ih ps
    · cases ps <;> simp
    · cases ps with
      | nil => cases parseLines ls <;> simp
      | cons r rs =>
        have := ih rs
        cases hr : parseLines ls <;> simp_all

theorem parseLine_error (l : List Char) (e : Err) (h : parseLine l = some (.error e)) : e = .assertion := by
  unfold parseLine at h
  split at h
  · cases h
  · split at h <;> cases h
    rfl

/-- A malformed non-empty line makes the whole parse an assertion error. -/
theorem parseLines_malformed (ls : List (List Char)) (l : List Char) (hl : l ∈ ls)
    (hne : l ≠ []) (hbad : ∀ a b, splitWs l ≠ [a, b]) : parseLines ls = .error .assertion := by
  induction ls with
  | nil => cases hl
  | cons x xs ih =>
    simp only [parseLines]
    rcases List.mem_cons.1 hl with rfl | h
    · have : parseLine l = some (.error .assertion) := by
        unfold parseLine
        rw [if_neg hne]
        split
        · next a b heq => exact absurd heq (hbad a b)
        · rfl
      simp [this]
    · rcases hx : parseLine x with _ | e | q
      · simpa using ih h
      · simp [parseLine_error x e hx]
      · simp [ih h]

theorem parseSbatch_some {s ds : List Char} (h : parseSbatch s = some ds) :
    ds ≠ [] ∧ ∀ c ∈ ds, isAsciiDigit c = true := by
  induction s with
  | nil => simp [parseSbatch] at h
  | cons c cs ih =>
    simp only [parseSbatch] at h
    split at h
    · split at h
      · next hne =>
        cases h
        exact ⟨hne, List.all_eq_true.1 List.all_takeWhile⟩
      · exact ih h
    · exact ih h

/-! ### retry loop -/

theorem retryLoop_count_le (n : Nat) (ho : Bool) (fuel k : Nat) (outs : List Attempt) :
    (retryLoop n ho fuel k outs).1 ≤ k + fuel := by
  induction fuel generalizing k outs with
  | zero => simp [retryLoop]
  | succ f ih =>
    cases outs with
    | nil => simp [retryLoop]
    | cons a rest =>
      simp only [retryLoop]
      split
      · simp only; omega
      · have := ih (k + 1) rest; omega

theorem retryStop_iff (n : Nat) (ho : Bool) (k : Nat) (a : Attempt) :
    retryStop n ho k a = true ↔
      (a.ret = 0 ∨ (a.ret ≠ 0 ∧ 0 < n ∧ ho = true ∧ a.permanent = true) ∨ k = n) := by
  simp only [retryStop, retryBreak, retryIdx, retryEarly]
  grind

/-- General loop invariant: the loop stops at the first attempt that is a success, a listed
    permanent error (only with retries configured and an output dict), or the last allowed. -/
theorem retryLoop_spec (n : Nat) (ho : Bool) (fuel k : Nat) (outs : List Attempt)
    (hlen : fuel ≤ outs.length) (hk : k + fuel = n + 1) (hf : 0 < fuel) :
    ∃ j a, j < fuel ∧ outs[j]? = some a ∧
      retryLoop n ho fuel k outs = (k + j + 1, some a) ∧
      (a.ret = 0 ∨ (a.ret ≠ 0 ∧ 0 < n ∧ ho = true ∧ a.permanent = true) ∨ k + j = n) ∧
      ∀ i b, i < j → outs[i]? = some b →
        b.ret ≠ 0 ∧ ¬(0 < n ∧ ho = true ∧ b.permanent = true) ∧ k + i < n := by
  induction fuel generalizing k outs with
  | zero => omega
  | succ f ih =>
    cases outs with
    | nil => simp at hlen
    | cons a rest =>
      simp only [retryLoop]
      by_cases hs : retryStop n ho k a = true
      · exact ⟨0, a, by omega, rfl, by simp [hs], by simpa using (retryStop_iff n ho k a).1 hs, by omega⟩
      · have hns := mt (retryStop_iff n ho k a).2 hs
        have h0 : a.ret ≠ 0 := fun h => hns (.inl h)
        have hkn : k ≠ n := fun h => hns (.inr (.inr h))
        obtain ⟨j, b, hj, hget, hres, hstop, hprev⟩ :=
          ih (k + 1) rest (by simpa using hlen) (by omega) (by omega)
        refine ⟨j + 1, b, by omega, by simpa using hget, by simp [hs, hres]; omega,
          hstop.imp_right (.imp_right fun h => by omega), fun i c hi hc => ?_⟩
        cases i with
        | zero => cases hc; exact ⟨h0, fun h => hns (.inr (.inl ⟨h0, h⟩)), by omega⟩
        | succ i =>
          have := hprev i c (by omega) (by simpa using hc)
          exact ⟨this.1, this.2.1, by omega⟩

end Jade.Slurm
