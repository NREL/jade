import JadeModel.Model.Lifecycle
import JadeModel.Proofs.ListLemmas

/-!
Helper lemmas for C16.

1. *Closed forms*: the interpreter of `Model/Lifecycle.lean`, run on the programs generated from the source, equals an
   explicit description of the trace (`submitTrace`, `nodeCliTrace`).  These four lemmas (`runJobs_closed`,
   `handleCompletion_closed`, `submitJobs_closed`, `nodeCli_closed`) and `entryIsNew_iff`/`commandFailed_iff` are the
   only places where the generated text is unfolded: a change of statement order, guard, raise/ignore or environment
   in the source breaks exactly these.
2. Generic list lemmas about splitting a list at an event.
3. Facts about the closed forms `submitTrace c` / `nodeCliTrace c` for an arbitrary context `c`: which events occur in
   which part, how often, where a trace can be split at a command or at the flag, and what is left when the command
   events are filtered out.  The property theorems are these facts read through the closed forms.
-/

namespace Jade.Lifecycle
open Jade.Gen.Lifecycle

/-- the obsolete per-group node scripts (`node_setup_script`, `node_shutdown_script`) are not used -/
def NoLegacy (cfg : Cfg) : Prop := cfg.legacySetup = false ∧ cfg.legacyShutdown = false

instance (cfg : Cfg) : Decidable (NoLegacy cfg) := by unfold NoLegacy; exact inferInstance

/-! ### the pieces a trace is made of -/

def setupEvs (c : Ctx) : List Ev :=
  if c.isNew && c.cfg.setup then [.hook .setup [.runtimeOutput] c.rc.setup] else []

/-- the setup command runs and returns a failing code -/
def setupFails (c : Ctx) : Bool := c.isNew && c.cfg.setup && commandFailed c.rc.setup

def nodeSetupEvs (c : Ctx) : List Ev :=
  if c.cfg.nodeSetup then [.hook .nodeSetup [.runtimeOutput, .submissionGroup] c.rc.nodeSetup] else []

/-- the node setup command is configured and returns a failing code -/
def nodeSetupFails (c : Ctx) : Bool := c.cfg.nodeSetup && commandFailed c.rc.nodeSetup

def nodeTeardownEvs (c : Ctx) : List Ev :=
  if c.cfg.nodeTeardown then [.hook .nodeTeardown [.runtimeOutput, .submissionGroup] c.rc.nodeTeardown] else []

def queueEvs (c : Ctx) : List Ev := c.queue.map (.job c.batch)

def teardownEvs (c : Ctx) : List Ev :=
  if c.cfg.teardown then [.hook .teardown [.runtimeOutput] c.rc.teardown] else []

def reportsEvs (c : Ctx) : List Ev := if c.cfg.reports then [.reports] else []

def nextStageEvs (c : Ctx) : List Ev := if c.cfg.pipelineStage then [.nextStage] else []

/-- what `_handle_completion` does -/
def completionEvs (c : Ctx) : List Ev :=
  [.summary c.rows (missingJobs c.jobs c.rows)] ++ teardownEvs c ++ reportsEvs c ++ [.flag] ++ nextStageEvs c

/-- what `JobRunner.run_jobs` does when the node setup command does not fail -/
def runnerEvs (c : Ctx) : List Ev := nodeSetupEvs c ++ queueEvs c ++ nodeTeardownEvs c

/-- the call reaches `_handle_completion` -/
def completes (c : Ctx) : Bool :=
  !setupFails c && (if c.isLocal then !nodeSetupFails c else c.hpcComplete)

/-- what `submit_jobs` does between the setup command and `_handle_completion` -/
def afterSetup (c : Ctx) : List Ev :=
  if setupFails c then []
  else if c.isLocal then (if nodeSetupFails c then nodeSetupEvs c else runnerEvs c ++ [.collect])
  else c.batches.map .sbatch

/-- everything `submit_jobs` does before `_handle_completion` -/
def beforeCompletion (c : Ctx) : List Ev := setupEvs c ++ afterSetup c

/-- closed form of the trace of one call of `submit_jobs` -/
def submitTrace (c : Ctx) : List Ev :=
  beforeCompletion c ++ (if completes c then completionEvs c else [])

def submitErr (c : Ctx) : Option Err :=
  if setupFails c || (c.isLocal && nodeSetupFails c) then some .execError else none

/-- closed form of the trace of one node (`jade-internal run-jobs`) -/
def nodeCliTrace (c : Ctx) : List Ev :=
  if nodeSetupFails c then nodeSetupEvs c
  else runnerEvs c ++ (if c.distributed then [.trySubmit] else [])

def nodeCliErr (c : Ctx) : Option Err := if nodeSetupFails c then some .execError else none

/-! ### closed forms (the generated programs are unfolded here and only here) -/

theorem commandFailed_iff (rc : Int) : commandFailed rc = true ↔ rc ≠ 0 := by
  simp [commandFailed]

theorem entryIsNew_iff (e : Entry) : entryIsNew e = true ↔ e = .submitJobs := by
  cases e <;> simp [entryIsNew]

section

-- the interpreter, for evaluation by `simp`
attribute [local simp] runProg stepProg guardHolds execBase afterCommand Cfg.has Cfg.legacy Rcs.of St.emit St.fail

theorem runJobs_closed (c : Ctx) (st : St) (hl : NoLegacy c.cfg) (hst : st.err = none) :
    runJobs c st =
      if nodeSetupFails c then { st with trace := st.trace ++ nodeSetupEvs c, err := some .execError }
      else { st with trace := st.trace ++ runnerEvs c } := by
  obtain ⟨h1, h2⟩ := hl
  cases hns : c.cfg.nodeSetup <;> cases hnt : c.cfg.nodeTeardown <;> cases hf : commandFailed c.rc.nodeSetup <;>
    simp [runJobs, runJobsProg, nodeSetupFails, nodeSetupEvs, nodeTeardownEvs, queueEvs, runnerEvs, hf, h1, h2, hns, hnt,
      hst]

theorem handleCompletion_closed (c : Ctx) (st : St) (hst : st.err = none) :
    handleCompletion c st =
      { st with trace := st.trace ++ completionEvs c, results := c.rows, missing := missingJobs c.jobs c.rows } := by
  cases ht : c.cfg.teardown <;> cases hr : c.cfg.reports <;> cases hp : c.cfg.pipelineStage <;>
    simp [handleCompletion, handleCompletionProg, completionEvs, teardownEvs, reportsEvs, nextStageEvs, hst, ht, hr, hp]

theorem submitJobs_closed (c : Ctx) (hl : NoLegacy c.cfg) :
    (submitJobs c).trace = submitTrace c ∧ (submitJobs c).err = submitErr c := by
  have hR := fun st h => runJobs_closed c st hl h
  have hC := fun st h => handleCompletion_closed c st h
  -- the setup command runs on a new submission that sets it; the rest depends on the mode
  cases hlo : c.isLocal
  · cases hh : c.hpcComplete <;> by_cases hb : c.isNew = true ∧ c.cfg.setup = true <;>
      cases hf : commandFailed c.rc.setup <;>
      simp [submitJobs, submitJobsProg, execSubmit, hC, submitTrace, beforeCompletion, afterSetup, completes,
        submitErr, setupEvs, setupFails, hlo, hh, hb, hf]
  · cases hg : nodeSetupFails c <;> by_cases hb : c.isNew = true ∧ c.cfg.setup = true <;>
      cases hf : commandFailed c.rc.setup <;>
      simp [submitJobs, submitJobsProg, execSubmit, hR, hC, submitTrace, beforeCompletion, afterSetup, completes,
        submitErr, setupEvs, setupFails, hlo, hg, hb, hf]

theorem nodeCli_closed (c : Ctx) (hl : NoLegacy c.cfg) :
    (nodeCli c).trace = nodeCliTrace c ∧ (nodeCli c).err = nodeCliErr c := by
  have hR := fun st h => runJobs_closed c st hl h
  cases hd : c.distributed <;> cases hg : nodeSetupFails c <;>
    simp [nodeCli, runJobsCliProg, execCli, hR, nodeCliTrace, nodeCliErr, hd, hg]

end

/-! ### rounds and nodes of a submission -/

theorem roundTrace_eq (cfg : Cfg) (r : Round) (hl : NoLegacy cfg) :
    roundTrace cfg r = submitTrace (r.ctxFor cfg) :=
  (submitJobs_closed (r.ctxFor cfg) hl).1

theorem roundErr_eq (cfg : Cfg) (r : Round) (hl : NoLegacy cfg) :
    roundErr cfg r = submitErr (r.ctxFor cfg) :=
  (submitJobs_closed (r.ctxFor cfg) hl).2

theorem nodeTrace_eq (cfg : Cfg) (c : Ctx) (hl : NoLegacy cfg) :
    nodeTrace cfg c = nodeCliTrace { c with cfg := cfg } :=
  (nodeCli_closed { c with cfg := cfg } hl).1

theorem nodeErr_eq (cfg : Cfg) (c : Ctx) (hl : NoLegacy cfg) :
    nodeErr cfg c = nodeCliErr { c with cfg := cfg } :=
  (nodeCli_closed { c with cfg := cfg } hl).2

@[simp] theorem ctxFor_cfg (cfg : Cfg) (r : Round) : (r.ctxFor cfg).cfg = cfg := rfl
@[simp] theorem ctxFor_isNew (cfg : Cfg) (r : Round) : (r.ctxFor cfg).isNew = entryIsNew r.entry := rfl

/-! ### generic list lemmas -/

theorem append_eq_split {α} {a l pre post : List α} {x : α} (h : a ++ l = pre ++ x :: post) :
    (∃ pre', pre = a ++ pre' ∧ l = pre' ++ x :: post) ∨ (∃ t, a = pre ++ x :: t ∧ post = t ++ l) := by
  rcases List.append_eq_append_iff.1 h with ⟨a', h1, h2⟩ | ⟨_ | ⟨y, t⟩, h1, h2⟩
  · exact Or.inl ⟨a', h1, h2⟩
  · exact Or.inl ⟨[], by simpa using h1.symm, by simpa using h2.symm⟩
  · rw [List.cons_append, List.cons.injEq] at h2
    exact Or.inr ⟨t, by rw [h1, h2.1], h2.2⟩

theorem split_after_block {α} (p : α → Prop) {a l pre post : List α} {x : α}
    (ha : ∀ y ∈ a, ¬ p y) (hx : p x) (h : a ++ l = pre ++ x :: post) : ∃ pre', pre = a ++ pre' ∧ l = pre' ++ x :: post := by
  rcases append_eq_split h with h | ⟨t, h1, -⟩
  · exact h
  · exact absurd hx (ha x (by rw [h1]; simp))

theorem split_before_block {α} (p : α → Prop) {l b pre post : List α} {x : α}
    (hb : ∀ y ∈ b, ¬ p y) (hx : p x) (h : l ++ b = pre ++ x :: post) : ∃ post', post = post' ++ b ∧ l = pre ++ x :: post' := by
  rcases append_eq_split h with ⟨pre', -, h2⟩ | ⟨t, h1, h2⟩
  · exact absurd hx (hb x (by rw [h2]; simp))
  · exact ⟨t, h2, h1⟩

/-- a list with exactly one element satisfying `p` can be split at such an element in one way only -/
theorem split_at_unique {α} (p : α → Prop) {a b pre post : List α} {x x' : α}
    (ha : ∀ y ∈ a, ¬ p y) (hb : ∀ y ∈ b, ¬ p y) (hx' : p x')
    (h : a ++ x :: b = pre ++ x' :: post) : pre = a ∧ x' = x ∧ post = b := by
  obtain ⟨pre', rfl, h1⟩ := split_after_block p ha hx' h
  obtain ⟨post', rfl, h2⟩ := split_before_block p hb hx' (l := [x]) h1
  cases pre' with
  | nil => simp at h2; simp [h2]
  | cons y t => cases t <;> simp at h2

/-- no element satisfying `p`: no split at such an element -/
theorem no_split {α} (p : α → Prop) {l pre post : List α} {x : α}
    (hl : ∀ y ∈ l, ¬ p y) (hx : p x) (h : l = pre ++ x :: post) : False :=
  hl x (by rw [h]; simp) hx

/-- a split of a concatenation of blocks happens inside one block -/
theorem flatMap_split {α β} (f : α → List β) {rs : List α} {pre post : List β} {x : β}
    (h : rs.flatMap f = pre ++ x :: post) :
    ∃ rs1 r rs2 p q, rs = rs1 ++ r :: rs2 ∧ f r = p ++ x :: q ∧
      pre = rs1.flatMap f ++ p ∧ post = q ++ rs2.flatMap f := by
  induction rs generalizing pre with
  | nil => simp at h
  | cons r rs ih =>
    rcases append_eq_split (List.flatMap_cons ▸ h) with ⟨pre', h1, h2⟩ | ⟨t, h1, h2⟩
    · obtain ⟨rs1, r', rs2, p, q, e1, e2, e3, e4⟩ := ih h2
      exact ⟨r :: rs1, r', rs2, p, q, by rw [e1]; rfl, e2, by rw [h1, e3]; simp, e4⟩
    · exact ⟨[], r, rs, pre, t, rfl, h1, by simp, h2⟩

/-- an element before a split point of a projection is before the split point of the whole -/
theorem mem_of_filterMap_prefix {α β} (f : α → Option β) {g pre post : List α} {x : α} {y : β}
    (h : g = pre ++ x :: post) {pre' post' : List β} {z : β}
    (hp : g.filterMap f = pre' ++ z :: post') (hx : f x = some z)
    (hcount : (pre.filterMap f).length = pre'.length) (hy : y ∈ pre') :
    ∃ a ∈ pre, f a = some y := by
  subst h
  rw [List.filterMap_append, List.filterMap_cons, hx] at hp
  have := List.append_inj hp hcount
  rw [← this.1] at hy
  simpa [List.mem_filterMap] using hy

theorem mem_of_filterMap_head {α β} (f : α → Option β) {pre post : List α} {x : α} {y z : β} {tl : List β}
    (h : (pre ++ x :: post).filterMap f = z :: tl) (hx : f x = some y) (hne : y ≠ z) : ∃ a ∈ pre, f a = some z := by
  rw [List.filterMap_append, List.filterMap_cons, hx] at h
  cases hq : pre.filterMap f with
  | nil => rw [hq] at h; injection h with h; exact absurd h hne
  | cons w q =>
    rw [hq] at h; injection h with h
    exact List.mem_filterMap.1 (by rw [hq, h]; simp)

theorem countP_ite_singleton {α} (p : α → Bool) (b : Prop) [Decidable b] (x : α) :
    (if b then [x] else []).countP p = if p x then (if b then 1 else 0) else 0 := by
  by_cases hb : b <;> by_cases hp : p x = true <;> simp [hb, hp]

theorem filter_ite_singleton {α} (p : α → Bool) (b : Prop) [Decidable b] (x : α) :
    (if b then [x] else []).filter p = if p x then (if b then [x] else []) else [] := by
  by_cases hb : b <;> by_cases hp : p x = true <;> simp [hb, hp]

theorem filter_map_of_forall {α β} (p : β → Bool) (f : α → β) (l : List α) (h : ∀ a, p (f a) = true) :
    (l.map f).filter p = l.map f :=
  List.filter_eq_self.2 (by simpa using fun a _ => h a)

/-! ### which events occur where -/

def Ev.isHook : Ev → Bool
  | .hook .. => true
  | _ => false

def Ev.isHookOf (h : Hook) : Ev → Bool
  | .hook h' _ _ => h' == h
  | _ => false

def Ev.isFlag : Ev → Bool
  | .flag => true
  | _ => false

def Ev.isSummary : Ev → Bool
  | .summary .. => true
  | _ => false

def Ev.isJob : Ev → Bool
  | .job .. => true
  | _ => false

def Ev.isSbatch : Ev → Bool
  | .sbatch _ => true
  | _ => false

/-- events of `_handle_completion` -/
def Ev.isCompletion : Ev → Bool
  | .summary .. | .hook .teardown _ _ | .reports | .flag | .nextStage => true
  | _ => false

theorem completionEvs_forall (c : Ctx) (P : Ev → Prop)
    (hsum : P (.summary c.rows (missingJobs c.jobs c.rows))) (htd : ∀ e ∈ teardownEvs c, P e)
    (hrep : P .reports) (hflag : P .flag) (hnext : P .nextStage) : ∀ e ∈ completionEvs c, P e := by
  simp only [completionEvs, reportsEvs, nextStageEvs, List.mem_append, List.mem_singleton, List.mem_ite_nil_right]
  rintro e ((((rfl | h) | ⟨-, rfl⟩) | rfl) | ⟨-, rfl⟩) <;> first | assumption | exact htd _ h

theorem setupEvs_forall (c : Ctx) (P : Ev → Prop)
    (h : c.cfg.setup = true → P (.hook .setup [.runtimeOutput] c.rc.setup)) : ∀ e ∈ setupEvs c, P e := by
  simp only [setupEvs, List.mem_ite_nil_right, List.mem_singleton, Bool.and_eq_true]
  rintro e ⟨⟨-, hs⟩, rfl⟩
  exact h hs

theorem runnerEvs_forall (c : Ctx) (P : Ev → Prop)
    (hns : ∀ e ∈ nodeSetupEvs c, P e) (hq : ∀ q, P (.job c.batch q)) (hnt : ∀ e ∈ nodeTeardownEvs c, P e) :
    ∀ e ∈ runnerEvs c, P e := by
  simp only [runnerEvs, queueEvs, List.mem_append, List.mem_map]
  rintro e ((h | ⟨q, -, rfl⟩) | h)
  · exact hns e h
  · exact hq q
  · exact hnt e h

theorem afterSetup_forall (c : Ctx) (P : Ev → Prop)
    (hrun : ∀ e ∈ runnerEvs c, P e) (hns : ∀ e ∈ nodeSetupEvs c, P e) (hcollect : P .collect) (hsb : ∀ b, P (.sbatch b)) :
    ∀ e ∈ afterSetup c, P e := by
  intro e he
  unfold afterSetup at he
  repeat' split at he
  · cases he
  · exact hns e he
  · rcases List.mem_append.1 he with h | h
    · exact hrun e h
    · rw [List.mem_singleton.1 h]; exact hcollect
  · obtain ⟨b, -, rfl⟩ := List.mem_map.1 he
    exact hsb b

theorem submitTrace_forall (c : Ctx) (P : Ev → Prop)
    (hsetup : ∀ e ∈ setupEvs c, P e) (hafter : ∀ e ∈ afterSetup c, P e) (hcomp : ∀ e ∈ completionEvs c, P e) :
    ∀ e ∈ submitTrace c, P e := by
  intro e he
  unfold submitTrace beforeCompletion at he
  rcases List.mem_append.1 he with h | h
  · rcases List.mem_append.1 h with h | h
    · exact hsetup e h
    · exact hafter e h
  · split at h
    · exact hcomp e h
    · cases h

theorem nodeCliTrace_forall (c : Ctx) (P : Ev → Prop)
    (hrun : ∀ e ∈ runnerEvs c, P e) (hns : ∀ e ∈ nodeSetupEvs c, P e) (htry : P .trySubmit) :
    ∀ e ∈ nodeCliTrace c, P e := by
  intro e he
  unfold nodeCliTrace at he
  split at he
  · exact hns e he
  · rcases List.mem_append.1 he with h | h
    · exact hrun e h
    · split at h
      · rw [List.mem_singleton.1 h]; exact htry
      · cases h

/-- the environment the documentation (tutorial, "Setup and teardown scripts") promises to each command -/
def documentedEnv : Hook → List EnvVar
  | .setup => [.runtimeOutput]
  | .teardown => [.runtimeOutput]
  | .nodeSetup => [.runtimeOutput, .submissionGroup]
  | .nodeTeardown => [.runtimeOutput, .submissionGroup]

/-- a command event is one of a configured command, with the documented environment and the return code the environment chose -/
def Documented (c : Ctx) (e : Ev) : Prop :=
  ∀ h env rc, e = .hook h env rc → c.cfg.has h = true ∧ env = documentedEnv h ∧ rc = c.rc.of h

theorem documented_hook (c : Ctx) (h : Hook) (hh : c.cfg.has h = true) :
    Documented c (.hook h (documentedEnv h) (c.rc.of h)) := by
  rintro _ _ _ ⟨⟩; exact ⟨hh, rfl, rfl⟩

theorem nodeSetupEvs_documented (c : Ctx) : ∀ e ∈ nodeSetupEvs c, Documented c e := by
  simp [nodeSetupEvs]; exact documented_hook c .nodeSetup

theorem runnerEvs_documented (c : Ctx) : ∀ e ∈ runnerEvs c, Documented c e :=
  runnerEvs_forall c (Documented c) (nodeSetupEvs_documented c) (fun _ _ _ _ h => nomatch h)
    (by simp [nodeTeardownEvs]; exact documented_hook c .nodeTeardown)

theorem submitTrace_documented (c : Ctx) : ∀ e ∈ submitTrace c, Documented c e :=
  submitTrace_forall c (Documented c) (setupEvs_forall c _ (documented_hook c .setup))
    (afterSetup_forall c _ (runnerEvs_documented c) (nodeSetupEvs_documented c) (fun _ _ _ h => nomatch h)
      (fun _ _ _ _ h => nomatch h))
    (completionEvs_forall c (Documented c) (fun _ _ _ h => nomatch h) (by simp [teardownEvs]; exact documented_hook c .teardown)
      (fun _ _ _ h => nomatch h) (fun _ _ _ h => nomatch h) (fun _ _ _ h => nomatch h))

theorem nodeCliTrace_documented (c : Ctx) : ∀ e ∈ nodeCliTrace c, Documented c e :=
  nodeCliTrace_forall c _ (runnerEvs_documented c) (nodeSetupEvs_documented c) (fun _ _ _ h => nomatch h)

theorem setupEvs_of_not_new (c : Ctx) (h : c.isNew = false) : setupEvs c = [] := by
  simp [setupEvs, h]

theorem setupEvs_of_unset (c : Ctx) (h : c.cfg.setup = false) : setupEvs c = [] := by
  simp [setupEvs, h]

theorem setupEvs_of_new (c : Ctx) (h : c.isNew = true) (hs : c.cfg.setup = true) :
    setupEvs c = [.hook .setup [.runtimeOutput] c.rc.setup] := by
  simp [setupEvs, h, hs]

theorem setup_free_after_setup (c : Ctx) :
    ∀ e ∈ afterSetup c ++ (if completes c then completionEvs c else []), e.isHookOf .setup = false := by
  intro e he
  rcases List.mem_append.1 he with h | h
  · exact afterSetup_forall c (·.isHookOf .setup = false) (runnerEvs_forall c _ (by simp [nodeSetupEvs, Ev.isHookOf]) (fun _ => rfl)
      (by simp [nodeTeardownEvs, Ev.isHookOf])) (by simp [nodeSetupEvs, Ev.isHookOf]) rfl (fun _ => rfl) e h
  · split at h
    · exact completionEvs_forall c (·.isHookOf .setup = false) rfl (by simp [teardownEvs, Ev.isHookOf]) rfl rfl rfl e h
    · cases h

theorem beforeCompletion_not_completion (c : Ctx) : ∀ e ∈ beforeCompletion c, e.isCompletion = false := by
  intro e he
  rcases List.mem_append.1 he with h | h
  · exact setupEvs_forall c (·.isCompletion = false) (fun _ => rfl) e h
  · exact afterSetup_forall c (·.isCompletion = false) (runnerEvs_forall c _ (by simp [nodeSetupEvs, Ev.isCompletion]) (fun _ => rfl)
      (by simp [nodeTeardownEvs, Ev.isCompletion])) (by simp [nodeSetupEvs, Ev.isCompletion]) rfl (fun _ => rfl) e h

theorem submitTrace_summary (c : Ctx) (rows missing : List Nat) (h : Ev.summary rows missing ∈ submitTrace c) :
    rows = c.rows ∧ missing = missingJobs c.jobs c.rows := by
  have key : ∀ e ∈ submitTrace c, e.isSummary = true → e = .summary c.rows (missingJobs c.jobs c.rows) :=
    submitTrace_forall c _ (setupEvs_forall c _ (fun _ h => nomatch h))
      (afterSetup_forall c _ (runnerEvs_forall c _ (by simp [nodeSetupEvs, Ev.isSummary]) (fun _ h => nomatch h)
        (by simp [nodeTeardownEvs, Ev.isSummary])) (by simp [nodeSetupEvs, Ev.isSummary]) (fun h => nomatch h)
        (fun _ h => nomatch h))
      (completionEvs_forall c _ (fun _ => rfl) (by simp [teardownEvs, Ev.isSummary]) (fun h => nomatch h)
        (fun h => nomatch h) (fun h => nomatch h))
  injection key _ h rfl with h1 h2
  exact ⟨h1, h2⟩

/-! ### counting -/

theorem beforeCompletion_count (c : Ctx) (p : Ev → Bool) (hp : ∀ e, p e = true → e.isCompletion = true) :
    (beforeCompletion c).countP p = 0 := by
  rw [List.countP_eq_zero]
  intro e he hpe
  have := beforeCompletion_not_completion c e he
  rw [hp e hpe] at this
  cases this

theorem submitTrace_count_flag (c : Ctx) : (submitTrace c).countP (·.isFlag) = if completes c then 1 else 0 := by
  rw [submitTrace, List.countP_append, beforeCompletion_count _ _ (by intro e; cases e <;> simp [Ev.isFlag, Ev.isCompletion])]
  split <;>
    simp [completionEvs, teardownEvs, reportsEvs, nextStageEvs, List.countP_append, countP_ite_singleton, Ev.isFlag]

theorem submitTrace_count_teardown (c : Ctx) :
    (submitTrace c).countP (·.isHookOf .teardown) = if c.cfg.teardown && completes c then 1 else 0 := by
  rw [submitTrace, List.countP_append, beforeCompletion_count _ _ (by
    intro e; cases e with
    | hook h _ _ => cases h <;> simp [Ev.isHookOf, Ev.isCompletion]
    | _ => simp [Ev.isHookOf, Ev.isCompletion])]
  split <;>
    simp [completionEvs, teardownEvs, reportsEvs, nextStageEvs, List.countP_append, countP_ite_singleton, Ev.isHookOf, *]

theorem nodeCliTrace_count_nodeSetup (c : Ctx) :
    (nodeCliTrace c).countP (·.isHookOf .nodeSetup) = if c.cfg.nodeSetup then 1 else 0 := by
  unfold nodeCliTrace
  split <;>
    simp [runnerEvs, nodeSetupEvs, queueEvs, nodeTeardownEvs, List.countP_append, countP_ite_singleton, List.countP_map,
      Ev.isHookOf, Function.comp_def]

theorem nodeCliTrace_count_nodeTeardown (c : Ctx) :
    (nodeCliTrace c).countP (·.isHookOf .nodeTeardown) = if c.cfg.nodeTeardown && !nodeSetupFails c then 1 else 0 := by
  unfold nodeCliTrace
  split <;>
    simp [runnerEvs, nodeSetupEvs, queueEvs, nodeTeardownEvs, List.countP_append, countP_ite_singleton, List.countP_map,
      Ev.isHookOf, Function.comp_def, *]

/-! ### splitting a trace at a command / at the flag -/

theorem submitTrace_split_completion (c : Ctx) {p q : List Ev} {x : Ev} (hx : x.isCompletion = true)
    (h : submitTrace c = p ++ x :: q) :
    completes c = true ∧ ∃ p', p = beforeCompletion c ++ p' ∧ completionEvs c = p' ++ x :: q := by
  obtain ⟨p', hp, h'⟩ := split_after_block (·.isCompletion = true)
    (fun y hy => by simp [beforeCompletion_not_completion c y hy]) hx h
  split at h'
  · exact ⟨‹_›, p', hp, h'⟩
  · cases p' <;> cases h'

theorem submitTrace_split_teardown (c : Ctx) (p q : List Ev) (env : List EnvVar) (rc : Int)
    (h : submitTrace c = p ++ .hook .teardown env rc :: q) :
    p = beforeCompletion c ++ [.summary c.rows (missingJobs c.jobs c.rows)] ∧
      q = reportsEvs c ++ .flag :: nextStageEvs c ∧ env = [.runtimeOutput] ∧ rc = c.rc.teardown ∧
      c.cfg.teardown = true ∧ completes c = true := by
  obtain ⟨ht, henv, hrc⟩ := submitTrace_documented c _ (by rw [h]; simp) .teardown env rc rfl
  obtain ⟨hc, p', rfl, h'⟩ := submitTrace_split_completion c rfl h
  have hform : completionEvs c = [.summary c.rows (missingJobs c.jobs c.rows)] ++
      .hook .teardown [.runtimeOutput] c.rc.teardown :: (reportsEvs c ++ .flag :: nextStageEvs c) := by
    simp [completionEvs, teardownEvs, show c.cfg.teardown = true from ht]
  rw [hform] at h'
  obtain ⟨e1, -, e3⟩ := split_at_unique (·.isHookOf .teardown = true) (by simp [Ev.isHookOf])
    (by simp [reportsEvs, nextStageEvs, Ev.isHookOf, or_imp, forall_and]) rfl h'
  exact ⟨by rw [e1], e3, henv, hrc, ht, hc⟩

theorem submitTrace_split_flag (c : Ctx) (p q : List Ev) (h : submitTrace c = p ++ .flag :: q) :
    p = beforeCompletion c ++ [.summary c.rows (missingJobs c.jobs c.rows)] ++ teardownEvs c ++ reportsEvs c ∧
      q = nextStageEvs c ∧ completes c = true := by
  obtain ⟨hc, p', rfl, h'⟩ := submitTrace_split_completion c rfl h
  have hform : completionEvs c = ([.summary c.rows (missingJobs c.jobs c.rows)] ++ teardownEvs c ++ reportsEvs c) ++
      .flag :: nextStageEvs c := by
    simp [completionEvs]
  rw [hform] at h'
  obtain ⟨e1, -, e3⟩ := split_at_unique (·.isFlag = true) (by simp [teardownEvs, reportsEvs, Ev.isFlag, or_imp, forall_and])
    (by simp [nextStageEvs, Ev.isFlag]) rfl h'
  exact ⟨by rw [e1]; simp, e3, hc⟩

theorem nodeCliTrace_split_job (c : Ctx) (hs : c.cfg.nodeSetup = true) (pre post : List Ev) (b : Nat) (e : QEv)
    (h : nodeCliTrace c = pre ++ .job b e :: post) :
    ∃ tl, pre = .hook .nodeSetup [.runtimeOutput, .submissionGroup] c.rc.nodeSetup :: tl ∧
      (∀ x ∈ tl, x.isJob = true) ∧ nodeSetupFails c = false := by
  unfold nodeCliTrace at h
  split at h
  · exact (no_split (·.isJob = true) (by simp [nodeSetupEvs, Ev.isJob]) rfl h).elim
  · rename_i hf
    rw [runnerEvs, List.append_assoc] at h
    obtain ⟨t, -, h⟩ := split_before_block (·.isJob = true) (by simp [nodeTeardownEvs, Ev.isJob, or_imp, forall_and])
      rfl h
    rw [nodeSetupEvs, if_pos hs] at h
    cases pre with
    | nil => cases h
    | cons y tl =>
      simp only [List.cons_append, List.nil_append, List.cons.injEq] at h
      refine ⟨tl, by rw [h.1], fun x hx => ?_, (Bool.not_eq_true _).mp hf⟩
      obtain ⟨q, -, rfl⟩ := List.mem_map.1 (show x ∈ queueEvs c by rw [h.2]; simp [hx])
      rfl

theorem nodeCliTrace_split_nodeTeardown (c : Ctx) (pre post : List Ev) (env : List EnvVar) (rc : Int)
    (h : nodeCliTrace c = pre ++ .hook .nodeTeardown env rc :: post) :
    pre = nodeSetupEvs c ++ queueEvs c ∧ post = (if c.distributed then [.trySubmit] else []) ∧
      env = [.runtimeOutput, .submissionGroup] ∧ rc = c.rc.nodeTeardown ∧ nodeSetupFails c = false := by
  obtain ⟨ht, henv, hrc⟩ := nodeCliTrace_documented c _ (by rw [h]; simp) .nodeTeardown env rc rfl
  unfold nodeCliTrace at h
  split at h
  · exact (no_split (·.isHookOf .nodeTeardown = true) (by simp [nodeSetupEvs, Ev.isHookOf]) rfl h).elim
  · rename_i hf
    rw [runnerEvs, nodeTeardownEvs, if_pos (show c.cfg.nodeTeardown = true from ht), List.append_assoc] at h
    obtain ⟨e1, -, e3⟩ := split_at_unique (·.isHookOf .nodeTeardown = true)
      (by simp [nodeSetupEvs, queueEvs, Ev.isHookOf, or_imp, forall_and]) (by simp [Ev.isHookOf]) rfl h
    exact ⟨e1, e3, henv, hrc, (Bool.not_eq_true _).mp hf⟩

theorem setupFails_noHooks (c : Ctx) : setupFails { c with cfg := c.cfg.noHooks } = false := by
  simp [setupFails, Cfg.noHooks]

theorem nodeSetupFails_noHooks (c : Ctx) : nodeSetupFails { c with cfg := c.cfg.noHooks } = false := rfl

theorem submitErr_eq_none (c : Ctx) (h1 : setupFails c = false) (h2 : c.isLocal = true → nodeSetupFails c = false) :
    submitErr c = none := by
  cases hl : c.isLocal <;> simp_all [submitErr]

-- pushing a filter through the pieces of a trace
attribute [local simp] List.filter_append filter_ite_singleton filter_map_of_forall

theorem nodeCliTrace_filter_hooks (c : Ctx) (hok : nodeSetupFails c = false) :
    (nodeCliTrace c).filter (fun e => !e.isHook) = nodeCliTrace { c with cfg := c.cfg.noHooks } := by
  simp only [nodeCliTrace, hok, nodeSetupFails_noHooks]
  simp [runnerEvs, nodeSetupEvs, nodeTeardownEvs, queueEvs, Cfg.noHooks, Ev.isHook]

theorem nodeCliTrace_filter_jobs (c : Ctx) (hok : nodeSetupFails c = false) :
    (nodeCliTrace c).filter (·.isJob) = queueEvs c := by
  simp [nodeCliTrace, hok, runnerEvs, nodeSetupEvs, nodeTeardownEvs, queueEvs, Ev.isJob]

theorem trySubmit_mem_nodeCliTrace (c : Ctx) (hok : nodeSetupFails c = false) (hd : c.distributed = true) :
    .trySubmit ∈ nodeCliTrace c := by
  simp [nodeCliTrace, hok, hd]

theorem submitTrace_filter_hooks (c : Ctx) (h1 : setupFails c = false) (h2 : c.isLocal = true → nodeSetupFails c = false) :
    (submitTrace c).filter (fun e => !e.isHook) = submitTrace { c with cfg := c.cfg.noHooks } := by
  have hcomp : completionEvs { c with cfg := c.cfg.noHooks } =
      [.summary c.rows (missingJobs c.jobs c.rows)] ++ reportsEvs c ++ [.flag] ++ nextStageEvs c := rfl
  simp only [submitTrace, beforeCompletion, afterSetup, completes, h1, setupFails_noHooks, nodeSetupFails_noHooks, hcomp]
  cases hl : c.isLocal
  · cases hh : c.hpcComplete <;>
      simp [completionEvs, setupEvs, teardownEvs, reportsEvs, nextStageEvs, Cfg.noHooks, Ev.isHook]
  · simp [h2 hl, completionEvs, setupEvs, teardownEvs, reportsEvs, nextStageEvs, runnerEvs, nodeSetupEvs, nodeTeardownEvs,
      queueEvs, Cfg.noHooks, Ev.isHook]

theorem noLegacy_noHooks (cfg : Cfg) (hl : NoLegacy cfg) : NoLegacy cfg.noHooks := hl

end Jade.Lifecycle
