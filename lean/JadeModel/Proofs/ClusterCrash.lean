import JadeModel.Model.ClusterCrash
import JadeModel.Proofs.ClusterCoherent

/-!
Torn writes (`Model/ClusterCrash.lean`): what survives when writers are killed between the file writes of a
lock section.

`VerAhead`: a version file is never BEHIND the version inside its data file, and no handle is ahead of a
version file.  It holds after every history of API operations and kills (no tampering), because each pair is
written version file first (`cfgWriteOrder_eq`, `jsWriteOrder_eq`: the generated statement order).  Hence a
handle whose copy is older than the CONTENTS on disk always fails the version compare, which is the hypothesis of
the history-free rejection theorems of `Proofs/ClusterStale.lean`.

Both `VerAhead.step` and `step_kept` (a process whose version differs from a version file leaves that pair alone: the
fail-closed theorems) are read off `step_stepped`.
-/

namespace Jade.Cluster
open Jade.Gen.Cluster

/-! ## the generated write order -/

/-- `_serialize` writes config_version.txt BEFORE cluster_config.json -/
theorem cfgWriteOrder_eq : cfgWriteOrder = [FileId.cfgVer, FileId.cfg] := rfl

/-- `_serialize_jobs` writes job_status_version.txt BEFORE job_status.json -/
theorem jsWriteOrder_eq : jsWriteOrder = [FileId.jsVer, FileId.js] := rfl

/-! ## the invariant -/

structure VerAhead (s : Sys) : Prop where
  /-- config_version.txt is not behind the version inside cluster_config.json -/
  cfgData : s.disk.cfg.version ≤ s.disk.cfgVer
  /-- job_status_version.txt is not behind the version inside job_status.json -/
  jsData : s.disk.js.version ≤ s.disk.jsVer
  cfgHandle : ∀ (h : Hid) (x : Handle), s.handles h = some x → x.cfg.version ≤ s.disk.cfgVer
  jsHandle : ∀ (h : Hid) (x : Handle) (j : JsView), s.handles h = some x → x.js = some j → j.version ≤ s.disk.jsVer

theorem VerAhead.of_le {s s' : Sys} (hI : VerAhead s) (hc : s'.disk.cfg.version ≤ s'.disk.cfgVer)
    (hj : s'.disk.js.version ≤ s'.disk.jsVer) (hcv : s.disk.cfgVer ≤ s'.disk.cfgVer) (hjv : s.disk.jsVer ≤ s'.disk.jsVer)
    (hh : ∀ (q : Hid) (y : Handle), s'.handles q = some y → s.handles q = some y ∨
      (y.cfg.version ≤ s'.disk.cfgVer ∧ ∀ j : JsView, y.js = some j → j.version ≤ s'.disk.jsVer)) : VerAhead s' :=
  ⟨hc, hj,
    fun q y hy => (hh q y hy).elim (fun h => Nat.le_trans (hI.cfgHandle q y h) hcv) (·.1),
    fun q y j hy hjs => (hh q y hy).elim (fun h => Nat.le_trans (hI.jsHandle q y j h hjs) hjv) (·.2 j hjs)⟩

/-! ## API operations -/

/-- what the effect of a private method means for the version bounds -/
theorem Eff.bounds {d : Disk} {x : Handle} {o : Out} (he : Eff d x o)
    (hc : d.cfg.version ≤ d.cfgVer) (hj : d.js.version ≤ d.jsVer) (hx : x.cfg.version ≤ d.cfgVer)
    (hxj : ∀ j : JsView, x.js = some j → j.version ≤ d.jsVer) :
    o.1.cfg.version ≤ o.1.cfgVer ∧ o.1.js.version ≤ o.1.jsVer ∧ d.cfgVer ≤ o.1.cfgVer ∧ d.jsVer ≤ o.1.jsVer ∧
    o.2.1.cfg.version ≤ o.1.cfgVer ∧ ∀ j : JsView, o.2.1.js = some j → j.version ≤ o.1.jsVer := by
  obtain ⟨_, _, hcfg, hjs⟩ := he
  -- each pair: untouched and the handle's copy no newer than before, or written by this handle with the next version
  unfold EffCfg at hcfg
  unfold EffJs at hjs
  grind

theorem VerAhead.acted {s s' : Sys} {x : Handle} {o : Out} {m : Bool} (hI : VerAhead s) (hx : x.cfg.version ≤ s.disk.cfgVer)
    (hxj : ∀ j : JsView, x.js = some j → j.version ≤ s.disk.jsVer) (he : Eff s.disk x o)
    (hd : s'.disk = { o.1 with marker := m })
    (hh : ∀ (q : Hid) (y : Handle), s'.handles q = some y → s.handles q = some y ∨ y = o.2.1) : VerAhead s' := by
  obtain ⟨b1, b2, b3, b4, b5, b6⟩ := he.bounds hI.cfgData hI.jsData hx hxj
  obtain ⟨d', hs', br⟩ := s'
  subst hd
  exact hI.of_le b1 b2 b3 b4 fun q y hy => (hh q y hy).imp_right fun e => by rw [e]; exact ⟨b5, b6⟩

theorem VerAhead.marker {s : Sys} (hI : VerAhead s) (m : Bool) : VerAhead { s with disk := { s.disk with marker := m } } :=
  ⟨hI.cfgData, hI.jsData, hI.cfgHandle, hI.jsHandle⟩

theorem VerAhead.unlocked {s : Sys} (hI : VerAhead s) (h : Hid) (f : Disk → Handle → Out)
    (hE : ∀ (d : Disk) (x : Handle), Eff d x (f d x)) : VerAhead (unlocked s h f).1 := by
  rcases unlocked_cases s h f with ⟨_, h2⟩ | ⟨x, hx, h2⟩ <;> rw [h2]
  · exact hI
  · exact hI.acted (m := (f s.disk x).1.marker) (hI.cfgHandle h x hx) (fun j => hI.jsHandle h x j hx) (hE _ x) rfl
      fun _ _ => Sys.setHandle_some

/-- every API operation preserves `VerAhead` — no protocol assumed, and `Coherent` is NOT needed (it does not
    survive a torn write) -/
theorem VerAhead.step {s : Sys} (hI : VerAhead s) (op : Op) (hnt : op.isTamper = false) :
    VerAhead (step s op).1 := by
  rcases step_stepped s op hnt with ⟨m, h⟩ | ⟨x, hx, _, o, m, he, _, hd, hh⟩
  · rw [h]; exact hI.marker m
  · rcases hx with ⟨h, hx⟩ | ⟨host, rfl⟩
    · exact hI.acted (hI.cfgHandle h x hx) (fun j => hI.jsHandle h x j hx) he hd hh
    · exact hI.acted hI.cfgData (fun j hj => by cases hj) he hd hh

/-! ## kills -/

/-- the config pair (data file, its presence, version file) is as it was -/
@[reducible] def CfgKept (d d' : Disk) : Prop := d'.cfg = d.cfg ∧ d'.cfgMissing = d.cfgMissing ∧ d'.cfgVer = d.cfgVer

/-- the job-status pair is as it was -/
@[reducible] def JsKept (d d' : Disk) : Prop := d'.js = d.js ∧ d'.jsVer = d.jsVer

/-- Each pair after the first `k` writes of an operation: untouched, version file written only, or both written
    — never the data file alone.  THIS is where the generated order of the two writes is used. -/
theorem tornDisk_pairs (d d' : Disk) (k : Nat) :
    (CfgKept d (tornDisk d d' k) ∨
     ((tornDisk d d' k).cfgVer = d'.cfgVer ∧ (tornDisk d d' k).cfg = d.cfg ∧ (tornDisk d d' k).cfgMissing = d.cfgMissing) ∨
     CfgKept d' (tornDisk d d' k)) ∧
    (JsKept d (tornDisk d d' k) ∨ ((tornDisk d d' k).jsVer = d'.jsVer ∧ (tornDisk d d' k).js = d.js) ∨
     JsKept d' (tornDisk d d' k)) := by
  unfold tornDisk writesOf
  rw [cfgWriteOrder_eq, jsWriteOrder_eq]
  cases cfgPairChanged d d' <;> cases jsPairChanged d d' <;>
    rcases k with _ | _ | _ | _ | k <;> simp [writeFile, CfgKept, JsKept]

/-- The files after the first `k` writes of an operation that rewrites each pair with the next version or leaves
    it alone: no version file falls behind its data file, and no version file decreases. -/
theorem tornDisk_bounds (d d' : Disk) (k : Nat) (hs : DiskStep d d')
    (hc : d.cfg.version ≤ d.cfgVer) (hj : d.js.version ≤ d.jsVer) :
    (tornDisk d d' k).cfg.version ≤ (tornDisk d d' k).cfgVer ∧ (tornDisk d d' k).js.version ≤ (tornDisk d d' k).jsVer ∧
    d.cfgVer ≤ (tornDisk d d' k).cfgVer ∧ d.jsVer ≤ (tornDisk d d' k).jsVer := by
  obtain ⟨h1, h2⟩ := hs
  obtain ⟨p1, p2⟩ := tornDisk_pairs d d' k
  grind

theorem tornDisk_new (d d' : Disk) (k : Nat) (hs : DiskStep d d') :
    ((tornDisk d d' k).cfg ≠ d.cfg → (tornDisk d d' k).cfgVer = d.cfgVer + 1) ∧
    ((tornDisk d d' k).js ≠ d.js → (tornDisk d d' k).jsVer = d.jsVer + 1) := by
  obtain ⟨h1, h2⟩ := hs
  obtain ⟨p1, p2⟩ := tornDisk_pairs d d' k
  grind

theorem tornDisk_kept (d d' : Disk) (k : Nat) :
    (CfgKept d d' → CfgKept d (tornDisk d d' k)) ∧ (JsKept d d' → JsKept d (tornDisk d d' k)) := by
  obtain ⟨p1, p2⟩ := tornDisk_pairs d d' k
  grind

theorem dropHandle_sub {hs : Hid → Option Handle} {a : Option Hid} {q : Hid} {y : Handle}
    (h : dropHandle hs a q = some y) : hs q = some y := by
  cases a with
  | none => exact h
  | some h0 =>
    simp only [dropHandle] at h
    split at h
    · cases h
    · exact h

theorem crashStep_cases (s : Sys) (op : Op) (k : Nat) (g : Bool) :
    (∃ m : Bool, crashStep s op k g =
      ({ s with disk := { tornDisk s.disk (step s op).1.disk k with marker := m },
                handles := dropHandle s.handles op.actor }, none)) ∨
    crashStep s op k g = ((step s op).1, some (step s op).2) := by
  unfold crashStep
  simp only
  split
  · exact Or.inl ⟨_, rfl⟩
  · exact Or.inr rfl

/-- a kill at any point of any API operation preserves `VerAhead` -/
theorem VerAhead.crash {s : Sys} (hI : VerAhead s) (op : Op) (k : Nat) (g : Bool) (hnt : op.isTamper = false) :
    VerAhead (crashStep s op k g).1 := by
  rcases crashStep_cases s op k g with ⟨m, h⟩ | h <;> rw [h]
  · obtain ⟨b1, b2, b3, b4⟩ := tornDisk_bounds s.disk _ k (step_diskStep s op hnt) hI.cfgData hI.jsData
    exact hI.of_le b1 b2 b3 b4 fun q y hy => Or.inl (dropHandle_sub hy)
  · exact hI.step op hnt

theorem VerAhead.torn_detectable {s s' : Sys} (hI : VerAhead s) (op : Op) (k : Nat) (g : Bool) (hnt : op.isTamper = false)
    (hkilled : crashStep s op k g = (s', none)) :
    (s'.disk.cfg ≠ s.disk.cfg → ∀ (h : Hid) (x : Handle), s'.handles h = some x → x.cfg.version ≠ s'.disk.cfgVer) ∧
    (s'.disk.js ≠ s.disk.js → ∀ (h : Hid) (x : Handle) (j : JsView), s'.handles h = some x → x.js = some j →
      j.version ≠ s'.disk.jsVer) := by
  obtain ⟨hc, hj⟩ := tornDisk_new s.disk _ k (step_diskStep s op hnt)
  rcases crashStep_cases s op k g with ⟨m, h⟩ | h <;> rw [h] at hkilled <;> cases hkilled
  constructor
  · intro hnew h x hx
    have hv := hc hnew
    have hle := hI.cfgHandle h x (dropHandle_sub hx)
    show x.cfg.version ≠ (tornDisk s.disk _ k).cfgVer
    omega
  · intro hnew h x j hx hjs
    have hv := hj hnew
    have hle := hI.jsHandle h x j (dropHandle_sub hx) hjs
    show j.version ≠ (tornDisk s.disk _ k).jsVer
    omega

theorem VerAhead.stepX {s : Sys} (hI : VerAhead s) (op : XOp) (hnt : op.isTamper = false) : VerAhead (stepX s op).1 := by
  cases op with
  | api op => exact hI.step op hnt
  | crash op k g => exact hI.crash op k g hnt

theorem VerAhead.execX (ops : List XOp) (s : Sys) (hI : VerAhead s) (hnt : ∀ op ∈ ops, op.isTamper = false) :
    VerAhead (execX s ops) :=
  List.foldlRecOn ops _ hI fun _ hI op hop => hI.stepX op (hnt op hop)

theorem VerAhead.create (host : Host) (spec : List (List JobId × Bool)) (brk : Bool) :
    VerAhead (create host spec brk) := by
  have hI := Coherent.create host spec brk
  refine ⟨Nat.le_of_eq hI.agreeCfg, Nat.le_of_eq hI.agreeJs, hI.le, ?_⟩
  rw [create_eq]
  intro h x j hx hj
  simp only at hx
  split at hx
  · cases hx; cases hj; exact Nat.le_refl _
  · cases hx

/-! ## torn version files (`TSys`, `apiT`, `crashT`, `stepT`)

1. The extension is conservative: while no version file is empty, `stepT` IS `stepX` (so every theorem about
   histories of API calls and kills between file writes holds verbatim for the extended system).
2. Fail closed: while a version file is empty, no operation of the API and no kill changes that (data file,
   version file) pair; the state ends only when the environment rewrites the file.
-/

/-! ### 1. conservative -/

theorem apiT_ofSys (s : Sys) (op : Op) : apiT (TSys.ofSys s) op = (TSys.ofSys (step s op).1, (step s op).2) := by
  cases op <;> simp [apiT, TSys.ofSys, maskDisk, unmaskDisk, tornRes]

theorem stepT_ofSys (s : Sys) (op : XOp) :
    stepT (TSys.ofSys s) (TOp.ofX op) = (TSys.ofSys (stepX s op).1, (stepX s op).2) := by
  cases op with
  | api op => simp only [TOp.ofX, stepT, stepX, apiT_ofSys]
  | crash op k g =>
    simp only [TOp.ofX, stepT, stepX, crashT, crashStep, apiT_ofSys]
    by_cases hk : k < (writesOf s.disk (step s op).1.disk).length <;> simp [TSys.ofSys, hk]

theorem execT_ofSys (ops : List XOp) (s : Sys) : execT (TSys.ofSys s) (ops.map TOp.ofX) = TSys.ofSys (execX s ops) := by
  rw [execT, List.foldl_map]
  exact List.foldl_hom TSys.ofSys fun s op => by rw [stepT_ofSys]

theorem runT_ofSys : ∀ (ops : List XOp) (s : Sys), (runT (TSys.ofSys s) (ops.map TOp.ofX)).2 = (runX s ops).2 := by
  intro ops
  induction ops with
  | nil => intro s; rfl
  | cons op ops ih =>
    intro s
    simp only [List.map_cons, runT, runX]
    rw [stepT_ofSys]
    simp only [ih]

/-! ### 2. fail closed -/

/-- every version file that is empty in `t` is still empty in `t'`, and its pair (the hidden number included) is as it was -/
@[reducible] def Closed (t t' : TSys) : Prop :=
  (t.cfgVerTorn = true → t'.cfgVerTorn = true ∧ CfgKept t.s.disk t'.s.disk) ∧
  (t.jsVerTorn = true → t'.jsVerTorn = true ∧ JsKept t.s.disk t'.s.disk)

theorem Closed.refl (t : TSys) : Closed t t := ⟨fun ht => ⟨ht, rfl, rfl, rfl⟩, fun ht => ⟨ht, rfl, rfl⟩⟩

theorem Closed.trans {t t' t'' : TSys} (h : Closed t t') (h' : Closed t' t'') : Closed t t'' := by
  grind

/-- An operation whose process holds a config version (resp. job-status version) that DIFFERS from the version file
    leaves that pair alone — the statement of `C10_stale_rejected`, reduced to the files and stated for every operation. -/
theorem step_kept (s : Sys) (op : Op) (hnt : op.isTamper = false) :
    ((op.mine s).1 ≠ s.disk.cfgVer → CfgKept s.disk (step s op).1.disk) ∧
    ((op.mine s).2 ≠ s.disk.jsVer → JsKept s.disk (step s op).1.disk) := by
  rcases step_stepped s op hnt with ⟨m, h⟩ | ⟨x, _, hm, o, m, he, _, hd, _⟩
  · rw [h]; exact ⟨fun _ => ⟨rfl, rfl, rfl⟩, fun _ => ⟨rfl, rfl⟩⟩
  · -- a pair is written only by a handle whose copy has the version file's number (`EffCfg`, `EffJs`)
    rw [hd, hm]
    refine ⟨fun h => ?_, fun h => ?_⟩
    · rcases he.cfg with ⟨a1, a2, a3, _⟩ | ⟨a1, _⟩
      · exact ⟨a1, a3, a2⟩
      · exact absurd a1 h
    · rcases he.js with ⟨a1, a2, _⟩ | ⟨j, a1, a2, _⟩
      · exact ⟨a1, a2⟩
      · rw [a1] at h; exact absurd a2 h

/-- an API operation (not one of the environment's) in a system with possibly empty version files: the unchanged `step`
    on the masked disk -/
theorem apiT_api (t : TSys) (op : Op) (hnt : op.isTamper = false) :
    apiT t op =
      ({ t with s := { (step { t.s with disk := maskDisk t (op.mine t.s) } op).1 with
                         disk := unmaskDisk t (step { t.s with disk := maskDisk t (op.mine t.s) } op).1.disk } },
       tornRes t op (op.mine t.s) (step { t.s with disk := maskDisk t (op.mine t.s) } op).2) := by
  cases op <;> first | rfl | cases hnt

/-- masking the version files does not change what the acting process holds in memory -/
theorem Op.mine_mask (t : TSys) (op : Op) (m : Nat × Nat) : op.mine { t.s with disk := maskDisk t m } = op.mine t.s := by
  cases op <;> rfl

/-- While `config_version.txt` is empty, no API operation changes the config pair (the hidden number included), and the
    file stays empty; likewise for the job-status pair. -/
theorem apiT_failClosed (t : TSys) (op : Op) (hnt : op.isTamper = false) : Closed t (apiT t op).1 := by
  rw [apiT_api t op hnt]
  have hk := step_kept { t.s with disk := maskDisk t (op.mine t.s) } op hnt
  rw [Op.mine_mask] at hk
  constructor
  · intro ht
    obtain ⟨a1, a2, _⟩ := hk.1 (by simp only [maskDisk, ht, if_true]; omega)
    exact ⟨ht, a1, a2, by simp only [unmaskDisk, ht, if_true]⟩
  · intro ht
    obtain ⟨a1, _⟩ := hk.2 (by simp only [maskDisk, ht, if_true]; omega)
    exact ⟨ht, a1, by simp only [unmaskDisk, ht, if_true]⟩

/-- … and so does a kill at any file write of any API operation, torn or not -/
theorem crashT_failClosed (t : TSys) (op : Op) (k : Nat) (g torn : Bool) (hnt : op.isTamper = false) :
    Closed t (crashT t op k g torn).1 := by
  have ha := apiT_failClosed t op hnt
  unfold crashT
  simp only
  split
  · exact ⟨fun ht => ⟨by simp [ht], (tornDisk_kept _ _ k).1 (ha.1 ht).2⟩,
      fun ht => ⟨by simp [ht], (tornDisk_kept _ _ k).2 (ha.2 ht).2⟩⟩
  · exact ha

theorem stepT_failClosed (t : TSys) (op : TOp) (hnt : op.isTamper = false) : Closed t (stepT t op).1 := by
  cases op with
  | api op => exact apiT_failClosed t op hnt
  | crash op k g torn => exact crashT_failClosed t op k g torn hnt

theorem execT_failClosed (ops : List TOp) (t : TSys) (hnt : ∀ op ∈ ops, op.isTamper = false) : Closed t (execT t ops) :=
  List.foldlRecOn ops _ (Closed.refl t) fun t' h op hop => h.trans (stepT_failClosed t' op (hnt op hop))

/-- with an EMPTY `config_version.txt` no operation that reads it reports a version mismatch: the compare is never
    reached, the exception is the ValueError of the read -/
theorem tornRes_not_mismatch (t : TSys) (op : Op) (m : Nat × Nat) (r : Res) (ht : t.cfgVerTorn = true)
    (hr : op.readsCfgVer = true) : tornRes t op m r ≠ .err .versionMismatch := by
  unfold tornRes
  rw [ht, hr]
  cases r with
  | err e => cases e <;> simp [compareRaised]
  | attrErr => simp only [compareRaised]; split <;> simp
  | _ => simp [compareRaised]

end Jade.Cluster
