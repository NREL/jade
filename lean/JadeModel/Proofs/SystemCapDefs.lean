import JadeModel.Proofs.SystemNodeDefs


/-! C06 at system level: the number of this submission's batches queued or running never exceeds max-nodes (definitions). -/

namespace Jade.Sys

/-- the ids the current (or crashed) role holder believes active; with no holder, the persisted ids -/
def trackedIds (s : Sys) : List Hid :=
  match holderSub s with
  | some y => y.out
  | none => s.disk.ids

def batchActive (s : Sys) (b : Batch) : Bool :=
  match b.hid with
  | some h => activeB s h
  | none => false

/-- number of this submission's batches queued or running on the HPC -/
def activeCount (s : Sys) : Nat := (s.batches.filter (batchActive s)).length

structure CapInv (s : Sys) : Prop where
  node : NodeInv s
  /-- every active batch is known to whoever can submit next -/
  tracked : ∀ h, activeB s h = true → h ∈ trackedIds s ∨ Orphan s
  /-- with nothing pending, the holder's view is a subset of the persisted ids -/
  outSub : ∀ q a y, s.procs q = .sub a y → holds y.pc = true → y.pend = [] → ∀ h ∈ y.out, h ∈ s.disk.ids
  /-- the `submitter` field always names a process that holds the role (alive or dead) -/
  holderExists : ∀ q, s.submitter = some q → ∃ a y, s.procs q = .sub a y ∧ holds y.pc = true
  cap : activeCount s ≤ s.sc.maxNodes

theorem capInv_init (sc : Scn) : CapInv (init sc) := by
  refine ⟨nodeInv_init sc, ?_, ?_, ?_, ?_⟩ <;> simp [init, activeB, activeCount]

theorem filter_length_mono {α} (l : List α) (p q : α → Bool) (h : ∀ x ∈ l, p x = true → q x = true) :
    (l.filter p).length ≤ (l.filter q).length := by
  rw [← List.countP_eq_length_filter, ← List.countP_eq_length_filter]
  exact List.countP_mono_left h

def batchActiveF (sl : Hid → Option BSt) (b : Batch) : Bool :=
  match b.hid with
  | some h => (match sl h with
    | some .pending => true
    | some .running => true
    | _ => false)
  | none => false

theorem batchActive_eq (s : Sys) : batchActive s = batchActiveF s.slurm := by
  funext b; simp only [batchActive, batchActiveF, activeB]; rfl

#realize_aux Jade

end Jade.Sys
