import JadeModel.Model.ReportsAgg

/-! Helper lemmas for the aggregation part of C20 (`Model/ReportsAgg.lean`): line files as association lists,
    conservation of the lines over every step of a history, draining of a batch's per-job files. -/

namespace Jade.ReportsAgg
open Jade.Gen.Reports Jade.Gen.ReportsAgg Jade.Reports

/-! ### the generated constants (one characterisation lemma each) -/

/-- the submitter commands open `submit_jobs_events.log` in append mode -/
theorem submitterLogAppends_eq : submitterLogAppends = true := rfl
/-- `run-jobs` opens the node's event file in append mode -/
theorem nodeLogAppends_eq : nodeLogAppends = true := rfl
/-- a job process opens its `events.log` in append mode -/
theorem jobLogAppends_eq : jobLogAppends = true := rfl
/-- `_aggregate_events` opens the node's event file in append mode -/
theorem aggNodeAppends_eq : aggNodeAppends = true := rfl
/-- `_aggregate_events` removes a per-job file once it is copied -/
theorem aggRemovesJobFile_eq : aggRemovesJobFile = true := rfl
/-- `_aggregate_events` goes on with the next job when a job has no per-job file -/
theorem aggOnMissing_eq : aggOnMissing = OnMissing.skip := rfl
/-- the aggregation looks for the file the job processes write -/
theorem aggJobFile_eq : aggJobFile = jobLogFile := by decide
/-- `resubmit-jobs` empties `events/` -/
theorem resubmitClearsEvents_eq : resubmitClearsEvents = true := rfl

/-! ### line files -/

section files
variable {ε : Type}

theorem content_nil : content ([] : Files ε) = [] := rfl

theorem content_cons (k : String) (v : List ε) (r : Files ε) : content ((k, v) :: r) = v ++ content r := by
  simp [content]

theorem content_appendFile (k : String) (ls : List ε) (fs : Files ε) :
    (content (appendFile k ls fs)).Perm (content fs ++ ls) := by
  induction fs with
  | nil => simp [appendFile, content]
  | cons p r ih =>
    obtain ⟨k', v⟩ := p
    unfold appendFile
    split
    · simp only [content_cons, List.append_assoc]
      exact .append_left v List.perm_append_comm
    · simp only [content_cons, List.append_assoc]
      exact .append_left v ih

theorem content_removeFile (k : String) (fs : Files ε) (v : List ε) (h : lookupFile k fs = some v) :
    (content (removeFile k fs) ++ v).Perm (content fs) := by
  induction fs with
  | nil => cases h
  | cons p r ih =>
    obtain ⟨k', w⟩ := p
    by_cases hk : (k' == k) = true
    · simp only [lookupFile, hk, if_true, Option.some.injEq] at h
      subst h
      simp only [removeFile, hk, if_true, content_cons]
      exact List.perm_append_comm
    · simp only [lookupFile, hk, Bool.false_eq_true, ↓reduceIte] at h
      simp only [removeFile, hk, Bool.false_eq_true, ↓reduceIte, content_cons, List.append_assoc]
      exact .append_left w (ih h)

/-- the names of the files of a directory -/
def keys (fs : Files ε) : List String := fs.map (·.1)

theorem lookupFile_eq_none_iff (k : String) (fs : Files ε) : lookupFile k fs = none ↔ k ∉ keys fs := by
  induction fs with
  | nil => simp [lookupFile, keys]
  | cons p r ih =>
    obtain ⟨k', v⟩ := p
    rw [lookupFile, keys, List.map_cons, List.mem_cons, not_or, ← keys, ← ih]
    by_cases hk : k' = k
    · simp [hk]
    · simp [hk, Ne.symm hk]

theorem keys_appendFile (k : String) (ls : List ε) (fs : Files ε) :
    keys (appendFile k ls fs) = if k ∈ keys fs then keys fs else keys fs ++ [k] := by
  induction fs with
  | nil => simp [appendFile, keys]
  | cons p r ih =>
    obtain ⟨k', v⟩ := p
    by_cases hk : k' = k
    · simp [appendFile, keys, hk]
    · have hne : ¬ k = k' := fun h => hk h.symm
      simp only [appendFile, beq_eq_false_iff_ne.2 hk, Bool.false_eq_true, if_false, keys, List.map_cons,
        List.mem_cons, hne, false_or] at ih ⊢
      rw [ih]
      split <;> simp [*]

theorem keys_removeFile (k : String) (fs : Files ε) : keys (removeFile k fs) = (keys fs).erase k := by
  induction fs with
  | nil => rfl
  | cons p r ih =>
    obtain ⟨k', v⟩ := p
    by_cases hk : k' = k <;> simp_all [removeFile, keys]

theorem nodup_keys_appendFile (k : String) (ls : List ε) (fs : Files ε) (h : (keys fs).Nodup) :
    (keys (appendFile k ls fs)).Nodup := by
  rw [keys_appendFile]
  split
  · exact h
  · next hk =>
    refine List.nodup_append.2 ⟨h, List.nodup_cons.2 ⟨List.not_mem_nil, .nil⟩, fun a ha b hb => ?_⟩
    rintro rfl
    exact hk (List.mem_singleton.1 hb ▸ ha)

end files

/-! ### steps -/

section steps
variable {α : Type}

/-- every line the output directory holds: the top-level event files, then the per-job files -/
def total (s : Out α) : List (Event α) := content s.top ++ content s.job

theorem total_appendTop (k : String) (ls : List (Event α)) (s : Out α) :
    (total { s with top := appendFile k ls s.top }).Perm (total s ++ ls) :=
  ((content_appendFile k ls s.top).append_right _).trans
    (by simp only [total, List.append_assoc]; exact .append_left _ List.perm_append_comm)

theorem total_appendJob (k : String) (ls : List (Event α)) (s : Out α) :
    (total { s with job := appendFile k ls s.job }).Perm (total s ++ ls) := by
  simp only [total, List.append_assoc]
  exact .append_left _ (content_appendFile k ls s.job)

theorem moveJob_eq (f key : String) (lines : List (Event α)) (s : Out α) :
    moveJob f key lines s = { top := appendFile f lines s.top, job := removeFile key s.job } := by
  rw [moveJob, aggRemovesJobFile_eq, if_pos rfl]

theorem total_moveJob (f key : String) (lines : List (Event α)) (s : Out α)
    (h : lookupFile key s.job = some lines) : (total (moveJob f key lines s)).Perm (total s) := by
  simp only [moveJob_eq, total]
  refine ((content_appendFile f lines s.top).append_right _).trans ?_
  rw [List.append_assoc]
  exact .append_left _ (List.perm_append_comm.trans (content_removeFile key s.job lines h))

/-- one round of the loop: the job's file, if there is one, is moved into the node's file -/
def aggRound (f : String) (s : Out α) (j : String) : Out α :=
  match lookupFile (jobPath j aggJobFile) s.job with
  | none => s
  | some lines => moveJob f (jobPath j aggJobFile) lines s

theorem aggLoop_eq_foldl (f : String) (jobs : List String) (s : Out α) :
    aggLoop f jobs s = jobs.foldl (aggRound f) s := by
  induction jobs generalizing s with
  | nil => rfl
  | cons j js ih =>
    rw [aggLoop, List.foldl_cons, aggRound]
    split <;> simp only [aggOnMissing_eq, *]

theorem aggLoop_invariant (P : Out α → Prop) (f : String)
    (hmove : ∀ s key lines, P s → lookupFile key s.job = some lines → P (moveJob f key lines s))
    (jobs : List String) (s : Out α) (h : P s) : P (aggLoop f jobs s) := by
  rw [aggLoop_eq_foldl]
  refine List.foldlRecOn jobs _ h fun s h j _ => ?_
  unfold aggRound
  split
  · exact h
  · next lines hl => exact hmove s _ lines h hl

theorem total_aggLoop (f : String) (jobs : List String) (s : Out α) : (total (aggLoop f jobs s)).Perm (total s) :=
  aggLoop_invariant (fun s' => (total s').Perm (total s)) f
    (fun s' key lines h hl => (total_moveJob f key lines s' hl).trans h) jobs s (.refl _)

/-- one step of a history adds exactly what its process writes -/
theorem total_step (s : Out α) (op : Op α) : (total (step s op)).Perm (total s ++ op.written) := by
  -- every open mode is "append" (`submitterLogAppends_eq` …), so each step appends, possibly nothing, to a file
  cases op with
  | submitterStart => exact total_appendTop _ [] s
  | submitterLog evs => exact total_appendTop _ evs s
  | runnerStart b n => exact total_appendTop _ [] s
  | runnerLog b n evs => exact total_appendTop _ evs s
  | otherLog f evs => exact total_appendTop _ evs s
  | jobRun j evs =>
    cases evs with
    | none => simp [step, jobRun, Op.written]
    | some l => exact total_appendJob _ l s
  | aggregate b n jobs => exact (total_aggLoop _ jobs _).trans (total_appendTop _ [] s)

theorem written_cons (op : Op α) (ops : List (Op α)) : written (op :: ops) = op.written ++ written ops := by
  simp [written]

theorem total_run (s : Out α) (ops : List (Op α)) : (total (run s ops)).Perm (total s ++ written ops) := by
  induction ops generalizing s with
  | nil => simp [run, written]
  | cons op ops ih =>
    rw [run, List.foldl_cons, written_cons, ← List.append_assoc]
    exact (ih (step s op)).trans ((total_step s op).append_right _)

/-! ### per-job files are named apart, and a batch's aggregation drains them -/

theorem nodup_moveJob (f key : String) (lines : List (Event α)) (s : Out α) (h : (keys s.job).Nodup) :
    (keys (moveJob f key lines s).job).Nodup := by
  rw [moveJob_eq, keys_removeFile]
  exact h.erase key

theorem nodup_aggLoop (f : String) (jobs : List String) (s : Out α) (h : (keys s.job).Nodup) :
    (keys (aggLoop f jobs s).job).Nodup :=
  aggLoop_invariant (fun s => (keys s.job).Nodup) f (fun s key lines h _ => nodup_moveJob f key lines s h) jobs s h

theorem nodup_step (s : Out α) (op : Op α) (h : (keys s.job).Nodup) : (keys (step s op).job).Nodup := by
  cases op with
  | jobRun j evs =>
    cases evs with
    | none => exact h
    | some l => exact nodup_keys_appendFile _ l s.job h
  | aggregate b n jobs => exact nodup_aggLoop _ jobs _ h
  | _ => exact h

theorem nodup_run (s : Out α) (ops : List (Op α)) (h : (keys s.job).Nodup) : (keys (run s ops).job).Nodup :=
  List.foldlRecOn (motive := fun s => (keys s.job).Nodup) ops step h fun s h op _ => nodup_step s op h

theorem aggLoop_keeps_none (f k : String) (jobs : List String) (s : Out α) (h : lookupFile k s.job = none) :
    lookupFile k (aggLoop f jobs s).job = none := by
  refine aggLoop_invariant (fun s => lookupFile k s.job = none) f (fun s key lines h _ => ?_) jobs s h
  rw [moveJob_eq, lookupFile_eq_none_iff, keys_removeFile] at *
  exact fun hm => h (List.mem_of_mem_erase hm)

/-- after the loop no job of the configuration has a per-job file left -/
theorem aggLoop_drains (f : String) (jobs : List String) (s : Out α) (hnd : (keys s.job).Nodup) :
    ∀ j ∈ jobs, lookupFile (jobPath j aggJobFile) (aggLoop f jobs s).job = none := by
  induction jobs generalizing s with
  | nil => intro j hj; cases hj
  | cons j0 js ih =>
    intro j hj
    rw [aggLoop_eq_foldl, List.foldl_cons, ← aggLoop_eq_foldl]
    rcases List.mem_cons.1 hj with rfl | hj
    · -- its round leaves `j` without a file, and the later rounds create none
      apply aggLoop_keeps_none
      unfold aggRound
      split
      · next hnone => exact hnone
      · rw [moveJob_eq, lookupFile_eq_none_iff, keys_removeFile]
        exact hnd.not_mem_erase
    · exact ih _ (nodup_aggLoop f [j0] s hnd) j hj

theorem aggregate_step_drains (b n : String) (jobs : List String) (s : Out α) (hnd : (keys s.job).Nodup) :
    ∀ j ∈ jobs, lookupFile (jobPath j jobLogFile) (step s (.aggregate b n jobs)).job = none := by
  rw [← aggJobFile_eq]
  exact aggLoop_drains _ jobs _ hnd

end steps
end Jade.ReportsAgg

