import JadeModel.Proofs.SystemNodeDefs

/-! Result rows: never lost (C11); dependency order (C02, `BlockInv`). Definitions and small lemmas. -/

namespace Jade.Sys

/-- job `j` has a recorded outcome: a row in the consolidated file or in a node result file -/
def HasRowF (pr : List Row) (nf : Bid → List Row) (j : JobId) : Prop :=
  (∃ r ∈ pr, r.job = j) ∨ (∃ b, ∃ r ∈ nf b, r.job = j)

/-- job `j` has a recorded outcome in state `s` -/
def HasRow (s : Sys) (j : JobId) : Prop := HasRowF s.processed s.nodeFile j

/-- row `r` is on disk -/
def RowOnDisk (s : Sys) (r : Row) : Prop := r ∈ s.processed ∨ ∃ b, r ∈ s.nodeFile b

theorem hasRow_iff {s : Sys} {j : JobId} : HasRow s j ↔ ∃ r, RowOnDisk s r ∧ r.job = j := by
  unfold HasRow HasRowF RowOnDisk; grind

/-- the row an event writes -/
def newRow (s : Sys) : Op → Option Row
  | .cancelRow _ j => some { job := j, rc := 1, canceled := true }
  | .nodeRow _ j => some { job := j, rc := s.sc.rc j, canceled := false }
  | .nodeCancel _ j => some { job := j, rc := 1, canceled := true }
  | _ => none

theorem mem_snocAt (nf : Bid → List Row) (c : Bid) (r0 r : Row) :
    (∃ b, r ∈ if b = c then nf b ++ [r0] else nf b) ↔ (∃ b, r ∈ nf b) ∨ r = r0 := by
  constructor
  · rintro ⟨b, h⟩; split at h <;> grind
  · rintro (⟨b, h⟩ | rfl)
    · exact ⟨b, by split <;> simp [h]⟩
    · exact ⟨c, by simp⟩

/-- the rows on disk after an event: those before and the one it writes (`_move_results` moves rows from a node file
    to the consolidated file, a collector that dies in between leaves them in both) -/
theorem rowOnDisk_step_iff {s s' : Sys} {op : Op} (h : Step s op s') (r : Row) :
    RowOnDisk s' r ↔ RowOnDisk s r ∨ newRow s op = some r := by
  unfold RowOnDisk
  induction h <;> simp only [newRow, reduceCtorEq, or_false]
  case nodeRow | nodeCancel => frame_goal; simp only [mem_snocAt]; grind
  all_goals first | exact Iff.rfl | (frame_goal; grind)

/-- C11: whatever happens — kills and failures included — a row that is on disk
    stays on disk (possibly twice after a collector died between copy and removal) -/
theorem rowOnDisk_step {s s' : Sys} {op : Op} (h : Step s op s') (r : Row) (hr : RowOnDisk s r) :
    RowOnDisk s' r :=
  (rowOnDisk_step_iff h r).2 (.inl hr)

theorem hasRow_step {s s' : Sys} {op : Op} (h : Step s op s') (j : JobId) (hr : HasRow s j) : HasRow s' j :=
  hasRow_iff.2 ((hasRow_iff.1 hr).imp fun r hr => ⟨rowOnDisk_step h r hr.1, hr.2⟩)

/-- the rows an event puts on disk: `R` holds of their jobs (`R = HasRow s'` in `newRow_step`; a parameter so that the
    preservation proofs can treat `HasRow s'` as opaque) -/
def newRowFact (s : Sys) (R : JobId → Prop) : Op → Prop
  | .cancelRow _ j => R j
  | .nodeRow _ j => R j
  | .nodeCancel _ j => R j
  | .collectFile _ b => ∀ r ∈ s.nodeFile b, R r.job
  | .collectCopy _ b => ∀ r ∈ s.nodeFile b, R r.job
  | _ => True

theorem newRow_step {s s' : Sys} {op : Op} (h : Step s op s') : newRowFact s (HasRow s') op := by
  induction h with
  | cancelRow => exact Or.inl ⟨_, List.mem_append_right _ (List.mem_singleton_self _), rfl⟩
  | @nodeRow _ n | @nodeCancel _ n => exact Or.inr ⟨n.bid, _, by simp; exact Or.inr rfl, rfl⟩
  | collectFile | collectCopy => exact fun r hr => Or.inl ⟨r, List.mem_append_right _ hr, rfl⟩
  | _ => trivial

/-- C02: wherever a job waits, each configured blocker is still listed as blocking it there, or
    already has a recorded outcome -/
structure BlockInv (s : Sys) : Prop where
  disk : ∀ j, s.disk.st j = .ns → ∀ b ∈ s.sc.blockers j, b ∈ s.disk.blk j ∨ HasRow s b
  loc : ∀ q a y, s.procs q = .sub a y → holds y.pc = true → ∀ j, y.loc.st j = .ns →
    ∀ b ∈ s.sc.blockers j, b ∈ y.loc.blk j ∨ HasRow s b
  seen : ∀ q a y, s.procs q = .sub a y → holds y.pc = true →
    (∀ r ∈ y.pass, HasRow s r.job) ∧ (∀ b ∈ y.newly, HasRow s b)
  batches : ∀ B ∈ s.batches, ∀ j ∈ B.jobs, ∀ b ∈ s.sc.blockers j, b ∈ B.handed j ∨ HasRow s b
  node : ∀ p a n, s.procs p = .node a n → ∀ j ∈ n.queued, ∀ b ∈ s.sc.blockers j, b ∈ n.nblk j ∨ HasRow s b
  scn : s.sc = s.sc

theorem blockInv_init (sc : Scn) : BlockInv (init sc) := by
  refine ⟨?_, ?_, ?_, ?_, ?_, rfl⟩ <;> simp [init]
  intro j b hb; exact Or.inl hb

theorem holds_iff (pc : SPc) : holds pc = true ↔ (pc ≠ .fresh ∧ pc ≠ .gone) := by
  cases pc <;> simp [holds]

theorem sc_step {s s' : Sys} {op : Op} (h : Step s op s') : s'.sc = s.sc := by
  induction h <;> rfl

theorem sc_run {s s' : Sys} (ops : List Op) (h : run s ops = some s') : s'.sc = s.sc :=
  run_inv (P := fun t => t.sc = s.sc) (fun hp h => (sc_step h).trans hp) ops rfl h

theorem rowOnDisk_run {s s' : Sys} (ops : List Op) (h : run s ops = some s') (r : Row) (hr : RowOnDisk s r) :
    RowOnDisk s' r :=
  run_inv (P := fun t => RowOnDisk t r) (fun hp h => rowOnDisk_step h r hp) ops hr h

/-- the moment a job's command is started, every job configured as blocking it has a recorded outcome -/
theorem start_has_rows {s s' : Sys} (hi : BlockInv s) (p : Pid) (j : JobId)
    (h : Step s (.nodeStart p j) s') : ∀ b ∈ s.sc.blockers j, HasRow s b := by
  cases h with
  | nodeStart hp hg =>
    intro b hb
    rcases hi.node p true _ hp j hg.1 b hb with hk | hk
    · rw [hg.2.1] at hk; cases hk
    · exact hk

#realize_aux Jade

end Jade.Sys
